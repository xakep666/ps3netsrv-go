import Driver.Util
import Ps3.Model.Viso
import Ps3.Model.Checked
import Ps3.Proof.Scan
import Ps3.Spec.Viso
import Ps3.Spec.IsoTree
namespace Driver
open Ps3 Ps3.Viso

/-- blank the documented variable fields of a slice that starts at image offset `base` -/
def maskImage (b : Bytes) (base : Nat) (ps3 : Bool) : Bytes :=
  let ranges : List (Nat × Nat) :=
    [(16 * 2048 + 813, 16 * 2048 + 847), (17 * 2048 + 813, 17 * 2048 + 847)] ++
    (if ps3 then [(2048 + 0x40, 2048 + 0x200)] else [])
  ranges.foldl (fun acc (r : Nat × Nat) =>
    let lo := max r.1 base
    let hi := min r.2 (base + acc.length)
    if lo < hi then acc.take (lo - base) ++ zeros (hi - lo) ++ acc.drop (hi - base) else acc) b

/-- the content function of the theorems (`build_wf` is about exactly this one) -/
def contentOf (w : World) (i : Nat) : Content := Ps3.Proof.BuildWF.cfOf w i

def parseInt (s : String) : Int :=
  if s.startsWith "-" then -(((s.drop 1).toString.toNat?).getD 0 : Nat) else ((s.toNat?).getD 0 : Nat)

structure VOp where
  kind : Char
  n : Nat
  off : Int
  whence : Nat

def parseOps (s : String) : List VOp :=
  if s == "-" then [] else
  (s.splitOn ",").filterMap (fun t =>
    match t.toList with
    | 'A' :: rest =>
      match (String.ofList rest).splitOn "@" with
      | [n, off] => some ⟨'A', parseNat n, parseInt off, 0⟩
      | _ => none
    | 'R' :: rest => some ⟨'R', parseNat (String.ofList rest), 0, 0⟩
    | 'S' :: rest =>
      match (String.ofList rest).splitOn "/" with
      | [off, wh] => some ⟨'S', 0, parseInt off, parseNat wh⟩
      | _ => none
    | _ => none)

def readObs (img : Image) (w : World) (ps3 : Bool) (off n : Nat) : String × Nat :=
  let d := img.read (contentOf w) off n
  let cls := if off ≥ img.totalSize ∨ n == 0 then "eof" else "ok"
  -- the checked transcription (Model/Checked.lean) must neither fault nor differ
  match Checked.readC img (contentOf w) off n with
  | .error _ => ("MODEL-FAULT", 0)
  | .ok (d', errd) =>
    if errd || d' != d then ("CHECKED-MISMATCH", 0)
    else (s!"{d.length}/{cls}/{digest (maskImage d off ps3)}", d.length)

def runOps (img : Image) (w : World) (ps3 : Bool) : List VOp → Nat → List String → List String
  | [], _, acc => acc.reverse
  | op :: rest, cur, acc =>
    if op.kind == 'A' then
      if op.off < 0 then
        -- ReadAt refuses a negative offset before anything else (Checked.readAtC)
        let s := match Checked.readAtC img (contentOf w) op.off op.n with
          | .ok ([], true) => s!"0/err/{digest []}"
          | .ok _ => "CHECKED-MISMATCH"
          | .error _ => "MODEL-FAULT"
        runOps img w ps3 rest cur (s :: acc)
      else
      let (s, _) := readObs img w ps3 op.off.toNat op.n
      runOps img w ps3 rest cur (s :: acc)
    else if op.kind == 'R' then
      let (s, k) := readObs img w ps3 cur op.n
      runOps img w ps3 rest (cur + k) (s :: acc)
    else
      let target : Option Int :=
        if op.whence == 0 then some op.off
        else if op.whence == 1 then some (op.off + cur)
        else if op.whence == 2 then some ((img.totalSize : Int) + op.off)
        else none
      match target with
      | none => runOps img w ps3 rest cur ("0/err" :: acc)
      | some t =>
        if t < 0 ∨ t > img.totalSize then runOps img w ps3 rest cur ("0/err" :: acc)
        else runOps img w ps3 rest t.toNat (s!"{t}/ok" :: acc)

def visoOp (args : List String) : String :=
  match args with
  | [ps3, full, tree, hdir, ops] =>
    match fromHex hdir with
    | none => "bad-op"
    | some dir =>
      let w := parseTree tree
      let isPs3 := ps3 == "1"
      match build w (pathOfBytes dir) isPs3 ⟨0, 0⟩ [] with
      | none => "openerr"
      | some img =>
        let fullS :=
          if full == "1" && img.totalSize ≤ 3145728 then
            "full=" ++ digest (maskImage (img.read (contentOf w) 0 img.totalSize) 0 isPs3)
          else "full=skip"
        let obs := runOps img w isPs3 (parseOps ops) 0 []
        let wf := if Spec.Viso.wfB img (contentOf w) then "1" else "0"
        -- the ECMA-119 reader of Spec/IsoTree.lean walks the model's metadata area; the harness prints the
        -- same listing from its own Go reader on the implementation's image
        let rd (j : Bool) := digest (strBytes (Spec.IsoTree.listingOf img.fsBuf j))
        s!"size={img.totalSize} {fullS} ops={String.intercalate "," obs} valid=ok tree=ok wf={wf} again=same rd={rd false}.{rd true}"
  | _ => "bad-op"

end Driver
