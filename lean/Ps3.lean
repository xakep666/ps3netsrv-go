import Ps3.Base.Bytes
import Ps3.Proof.Seg
import Ps3.Base.Aes
import Ps3.Base.PathStr
import Ps3.Gen.Facts
import Ps3.Model.World
import Ps3.Model.Proto
import Ps3.Model.Conn
import Ps3.Model.IPRange
import Ps3.Props.C01
import Ps3.Props.C02
import Ps3.Props.C03
import Ps3.Props.C05
import Ps3.Props.C06
import Ps3.Props.C14
import Ps3.Props.C17
import Ps3.Model.Viso
import Ps3.Model.FSWrap
import Ps3.Proof.Scan
import Ps3.Proof.Recs
import Ps3.Props.C07
import Ps3.Props.C07b
import Ps3.Props.C08
import Ps3.Props.C09
import Ps3.Props.C18
import Ps3.Model.Crypt
import Ps3.Props.C10
import Ps3.Props.C11
import Ps3.Model.Tools
import Ps3.Props.C20
import Ps3.Spec.C13
import Ps3.Props.C13
import Ps3.Model.Admission
import Ps3.Model.Timeout
import Ps3.Props.C15
import Ps3.Props.C16
import Ps3.Model.Multi
import Ps3.Props.C12
import Ps3.Model.Config
import Ps3.Props.C19
import Ps3.Model.Checked
import Ps3.Props.C04
import Ps3.Props.C08b
import Ps3.Spec.IsoDir
import Ps3.Proof.IsoDir
import Ps3.Props.C08c
import Ps3.Props.C08d
