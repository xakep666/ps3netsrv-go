/-
  Windows `slice l off n`. The readers of the model walk a concatenation with a cursor, so its window is also stated
  the way they compute it: the next piece is read from where the last window stopped (`slice_append_cursor`).
-/
import Ps3.Base.Bytes
namespace Ps3.Proof.Slice

theorem slice_zero_len {α : Type} (l : List α) (off : Nat) : slice l off 0 = [] := by simp [slice]

/-- the disjunction is the guard of the model's readers (`off ≥ size ∨ n == 0`) -/
theorem slice_eq_nil {α : Type} {l : List α} {off n : Nat} (h : l.length ≤ off ∨ n = 0) : slice l off n = [] := by
  rcases h with h | rfl
  · simp [slice, List.drop_eq_nil_of_le h]
  · exact slice_zero_len _ _

theorem slice_slice_zero {α : Type} (l : List α) (n : Nat) : slice l 0 n = l.take n := rfl

theorem slice_length_le {α : Type} (l : List α) (off n : Nat) : (slice l off n).length ≤ n :=
  List.length_take_le ..

theorem slice_clip {α : Type} (l : List α) (off n : Nat) : slice l off n = slice l off (min n (l.length - off)) := by
  unfold slice
  rw [List.take_eq_take_iff, List.length_drop, Nat.min_assoc, Nat.min_self]

theorem slice_getElem? {α : Type} (l : List α) (off n i : Nat) :
    (slice l off n)[i]? = if i < n then l[off + i]? else none := by
  simp only [slice, List.getElem?_take, List.getElem?_drop]

theorem slice_zeros (m p k : Nat) : slice (zeros m) p k = zeros (min k (m - p)) := by
  simp [slice, zeros, List.take_replicate, List.drop_replicate]

theorem slice_append {α : Type} (a b : List α) (off n : Nat) :
    slice (a ++ b) off n = slice a off n ++ slice b (off - a.length) (n - (slice a off n).length) := by
  unfold slice
  rw [List.drop_append, List.take_append, List.length_take, List.length_drop, ← Nat.sub_eq_sub_min]

/-- `slice_append` as a reader with a cursor computes it: the window of `b` starts at the position
    reached after the window of `a`. When that window stopped inside `a` nothing is left to read, so
    the start does not matter. -/
theorem slice_append_cursor {α : Type} (a b : List α) (off n : Nat) :
    slice (a ++ b) off n =
      slice a off n ++ slice b (off + (slice a off n).length - a.length) (n - (slice a off n).length) := by
  rw [slice_append]
  by_cases h : n - (slice a off n).length = 0
  · rw [h, slice_zero_len, slice_zero_len]
  · -- the window of `a` was cut short, so it ends where `a` ends: at `max off a.length`
    rw [slice_length, ← Nat.sub_eq_sub_min] at h
    rw [slice_length, Nat.min_eq_right (Nat.le_of_lt (Nat.sub_ne_zero_iff_lt.mp h)), Nat.add_comm off,
      Nat.sub_add_eq_max, Nat.max_comm, ← Nat.sub_eq_max_sub]

/-- a window that did not use up its length reached the end of the list -/
theorem slice_cursor_ge {α : Type} (a : List α) (off n : Nat) (h : 0 < n - (slice a off n).length) :
    a.length ≤ off + (slice a off n).length := by
  rw [slice_length] at h ⊢; omega

/-- `l` with the positions `[a, b)` replaced by `x`, read pointwise -/
theorem getElem?_splice {α : Type} {l x : List α} {a b : Nat} (i : Nat) (hb : b = a + x.length) (h : b ≤ l.length) :
    (l.take a ++ x ++ l.drop b)[i]? = if a ≤ i ∧ i < b then x[i - a]? else l[i]? := by
  subst hb
  rw [List.append_assoc, List.getElem?_append, List.getElem?_append, List.length_take, Nat.min_eq_left (by omega),
    List.getElem?_drop]
  split
  · rw [List.getElem?_take_of_lt ‹_›, if_neg (by omega)]
  · split
    · rw [if_pos (by omega)]
    · rw [if_neg (by omega)]; congr 1; omega

theorem length_splice {α : Type} {l x : List α} {a b : Nat} (hb : b = a + x.length) (h : b ≤ l.length) :
    (l.take a ++ x ++ l.drop b).length = l.length := by
  simp only [List.length_append, List.length_take, List.length_drop]; omega

end Ps3.Proof.Slice
