/-
  A byte string written as a list of segments of known lengths: the `k`-th segment is the slice at the sum of
  the lengths before it. The fields of a record, of a path table entry and of a volume descriptor, and the
  descriptors, path tables and directories inside the metadata area are all found this way.
-/
import Ps3.Base.Bytes
namespace Ps3.Proof.Seg

variable {α : Type} {xs : List (List α)} {lens : List Nat} {k : Nat} {x : List α}

theorem sum_length_flatten (hl : xs.map List.length = lens) : xs.flatten.length = lens.sum := by
  subst hl; exact List.length_flatten

/-- a segment ends before the concatenation does -/
theorem take_sum_add_le {l : List Nat} {k n : Nat} (h : l[k]? = some n) : (l.take k).sum + n ≤ l.sum := by
  obtain ⟨hk, rfl⟩ := List.getElem?_eq_some_iff.mp h
  conv => rhs; rw [← List.take_append_drop k l, List.sum_append, List.drop_eq_getElem_cons hk, List.sum_cons]
  omega

/-- a slice that stays inside the `k`-th segment is a slice of that segment, whatever follows the segments -/
theorem slice_flatten_in_append (hl : xs.map List.length = lens) (k : Nat) (hk : xs[k]? = some x) (off n : Nat)
    (h : off + n ≤ x.length) (rest : List α) :
    slice (xs.flatten ++ rest) ((lens.take k).sum + off) n = slice x off n := by
  subst hl
  induction xs generalizing k with
  | nil => simp at hk
  | cons y ys ih =>
    rw [List.flatten_cons, List.append_assoc]
    cases k with
    | zero =>
      cases hk
      simpa using slice_append_left h
    | succ k =>
      simp only [List.map_cons, List.take_succ_cons, List.sum_cons]
      rw [slice_append_right (by omega), Nat.add_assoc, Nat.add_sub_cancel_left]
      exact ih k hk

/-- the `k`-th segment itself. For a literal `k` prove `hoff` by `simp` (or `decide` on a closed list): `rfl`
    makes the elaborator unfold `take` and `sum` together, at a cost exponential in `k`. -/
theorem seg_at (hl : xs.map List.length = lens) (k : Nat) (hk : xs[k]? = some x) {off n : Nat}
    (hoff : (lens.take k).sum = off) (hn : lens[k]? = some n) (rest : List α) :
    slice (xs.flatten ++ rest) off n = x := by
  obtain rfl : x.length = n := by subst hl; simpa [hk] using hn
  subst hoff
  have := slice_flatten_in_append hl k hk 0 x.length (by omega) rest
  rwa [Nat.add_zero, slice_zero_all (Nat.le_refl _)] at this

theorem getElem?_of_slice {l : List α} {i : Nat} {a : α} (h : slice l i 1 = [a]) : l[i]? = some a := by
  have : (slice l i 1)[0]? = [a][0]? := congrArg (·[0]?) h
  rwa [slice, List.getElem?_take_of_lt Nat.one_pos, List.getElem?_drop] at this

theorem sum_mul (l : List Nat) (S : Nat) : (l.map (· * S)).sum = l.sum * S := by
  induction l with
  | nil => simp
  | cons a t ih => simp [ih, Nat.add_mul]

theorem sum_take_mul (secs : List Nat) (S k : Nat) : ((secs.map (· * S)).take k).sum = (secs.take k).sum * S := by
  rw [← List.map_take, sum_mul]

/-- pieces of one width `k` are segments of lengths `k, …, k` -/
theorem map_length_map {α β : Type} (f : α → List β) (k : Nat) (h : ∀ a, (f a).length = k) (l : List α) :
    (l.map f).map List.length = List.replicate l.length k := by
  simp [Function.comp_def, h, List.map_const']

theorem length_flatten_map {α β : Type} (f : α → List β) (k : Nat) (h : ∀ a, (f a).length = k) (l : List α) :
    (l.map f).flatten.length = k * l.length := by
  rw [List.length_flatten, map_length_map f k h, List.sum_replicate_nat, Nat.mul_comm]

theorem slice_flatten_map {α β : Type} (f : α → List β) (k : Nat) (h : ∀ a, (f a).length = k) (l : List α)
    (i : Nat) (a : α) (hi : l[i]? = some a) (more : List β) (j n : Nat) (hj : j + n ≤ k) :
    slice ((l.map f).flatten ++ more) (k * i + j) n = slice (f a) j n := by
  have := slice_flatten_in_append (x := f a) (map_length_map f k h l) i (by simp [hi]) j n (by rw [h]; exact hj) more
  rwa [List.take_replicate, List.sum_replicate_nat, Nat.min_eq_left (Nat.le_of_lt (List.getElem?_eq_some_iff.mp hi).1),
    Nat.mul_comm] at this

end Ps3.Proof.Seg
