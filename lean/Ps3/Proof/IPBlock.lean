/-
  C14, the byte-level arithmetic under a CIDR / netmask block. A prefix mask is made of `maskByte` bytes;
  against a mask byte with `j` low zero bits (the host bits), AND floors a byte to a multiple of `2^j` and OR-NOT
  fills its low `j` bits: each sets the host bits to one value, 0 or 1 (`SetsHostBits`). One induction
  (`zipWith_cidrMask`) lifts either operation from bytes to big-endian numbers; the last-bit tweaks are the same two
  facts at `j = 1`.
  Then: the lengths the two address parsers and `To4` / `To16` produce (4 octets, 16 bytes), from which C14 has
  that `net.ParseIP` yields 16 bytes, and the IPv4-in-IPv6 embedding.
-/
import Ps3.Model.IPRange
import Ps3.Spec.IPRange
import Ps3.Proof.IPRange
namespace Ps3.Proof.IPBlock
open Ps3.IPRange Ps3.Spec.IPRange Ps3.Proof.IPRange

theorem maskByte_toNat (n : Nat) : (maskByte n).toNat = 256 - 2 ^ (8 - n) := by
  have : 0 < 2 ^ (8 - n) := Nat.pow_pos (by decide)
  rw [maskByte, UInt8.toNat_ofNat', Nat.mod_eq_of_lt (by omega)]

/-- `f a m`, for `m` a mask byte with `n` leading ones, is `a` with its low `8 - n` bits, the host bits, all set to the
    bit `c`: `c * (2^k - 1)` is `k` bits `c` -/
def SetsHostBits (f : UInt8 → UInt8 → UInt8) (c : Nat) : Prop :=
  ∀ a n, (f a (maskByte n)).toNat = a.toNat / 2 ^ (8 - n) * 2 ^ (8 - n) + c * (2 ^ (8 - n) - 1)

theorem setsHostBits_and : SetsHostBits (· &&& ·) 0 := fun a n => by
  rw [UInt8.toNat_and, maskByte_toNat, Nat.zero_mul, Nat.add_zero]
  exact land_floor a.toNat_lt (Nat.sub_le 8 n)

theorem setsHostBits_ornot : SetsHostBits (fun x y => x ||| ~~~y) 1 := fun a n => by
  rw [UInt8.toNat_or, UInt8.toNat_not, maskByte_toNat, Nat.one_mul, ← lor_fill]
  congr 1
  have : 2 ^ (8 - n) ≤ 2 ^ 8 := Nat.pow_le_pow_right (by decide) (Nat.sub_le 8 n)
  show 256 - 1 - _ = _
  omega

theorem cidrMask_succ (l n : Nat) : cidrMask (l + 1) n = maskByte (min n 8) :: cidrMask l (n - 8) := by
  simp only [cidrMask]; split
  · rw [Nat.min_eq_right ‹_›]; rfl
  · rw [Nat.min_eq_left (by omega), show n - 8 = 0 by omega]

theorem cidrMask_length (l n : Nat) : (cidrMask l n).length = l := by
  induction l generalizing n with
  | zero => rfl
  | succ l ih => rw [cidrMask_succ, List.length_cons, ih]

theorem cidrMask_zero (l : Nat) : cidrMask l 0 = List.replicate l 0 := by
  induction l with
  | zero => rfl
  | succ l ih => rw [cidrMask_succ, ih]; rfl

/-- an operation that sets the host bits of each byte, against its mask byte, to `c` sets the host bits of the whole
    number to `c`: `n` prefix bits, `h` host bits -/
theorem zipWith_cidrMask {f : UInt8 → UInt8 → UInt8} {c : Nat} (hf : SetsHostBits f c) (as : Bytes) {l n h : Nat}
    (hl : as.length = l) (hn : n + h = 8 * l) :
    fromBE (List.zipWith f as (cidrMask l n)) = fromBE as / 2 ^ h * 2 ^ h + c * (2 ^ h - 1) := by
  subst hl
  induction as generalizing n h with
  | nil =>
    obtain rfl : h = 0 := by simp at hn; omega
    simp [cidrMask, fromBE, fromLE]
  | cons a rest ih =>
    have hR : fromBE rest < 2 ^ (8 * rest.length) := by rw [Nat.pow_mul]; exact fromBE_lt rest
    rw [List.length_cons] at hn
    rw [List.length_cons, cidrMask_succ, List.zipWith_cons_cons, fromBE_cons, fromBE_cons, hf,
      List.length_zipWith, cidrMask_length, Nat.min_self, show (256 : Nat) = 2 ^ 8 by rfl, ← Nat.pow_mul]
    by_cases h8 : 8 ≤ n
    · -- a full mask byte: this byte is kept, the host bits all lie in the rest
      rw [ih (show n - 8 + h = _ by omega), Nat.min_eq_right h8, floor_low (by omega)]
      simp [Nat.add_assoc]
    · -- the boundary byte: the rest is all host bits
      obtain rfl : h = (8 - n) + 8 * rest.length := by omega
      rw [Nat.sub_eq_zero_of_le (Nat.le_of_not_le h8), ih (Nat.zero_add _),
        Nat.min_eq_left (Nat.le_of_not_le h8), Nat.div_eq_of_lt hR, floor_high hR]
      have hM : 2 ^ (8 * rest.length) ≤ 2 ^ (8 - n) * 2 ^ (8 * rest.length) :=
        Nat.le_mul_of_pos_left _ (Nat.pow_pos (by decide))
      rw [Nat.pow_add, Nat.add_mul, Nat.zero_mul, Nat.zero_add, Nat.add_assoc, Nat.mul_assoc c, ← Nat.mul_add,
        Nat.sub_mul, Nat.one_mul]
      congr 2; omega

/-- masking with a prefix mask floors the address to a multiple of 2^(host bits) -/
theorem and_cidr (as : Bytes) {l n h : Nat} (hl : as.length = l) (hn : n + h = 8 * l) :
    fromBE (bytesAnd as (cidrMask l n)) = fromBE as / 2 ^ h * 2 ^ h := by
  have := zipWith_cidrMask setsHostBits_and as hl hn
  rwa [Nat.zero_mul, Nat.add_zero] at this

theorem ornot_cidr (as : Bytes) {l n h : Nat} (hl : as.length = l) (hn : n + h = 8 * l) :
    fromBE (bytesOrNot as (cidrMask l n)) = fromBE as / 2 ^ h * 2 ^ h + (2 ^ h - 1) := by
  have := zipWith_cidrMask setsHostBits_ornot as hl hn
  rwa [Nat.one_mul] at this

theorem setLastBit_length (l : Bytes) : (setLastBit l).length = l.length := by
  rw [← l.length_reverse, setLastBit]; split <;> simp [*]

theorem clearLastBit_length (l : Bytes) : (clearLastBit l).length = l.length := by
  rw [← l.length_reverse, clearLastBit]; split <;> simp [*]

theorem fromBE_setLastBit (l : Bytes) (hne : l ≠ []) : fromBE (setLastBit l) = fromBE l / 2 * 2 + 1 := by
  simp only [fromBE, setLastBit]
  split
  · simp_all
  · rename_i x r h
    rw [h, List.reverse_reverse, fromLE, fromLE, UInt8.toNat_or, show (1 : UInt8).toNat = 2 ^ 1 - 1 from rfl,
      lor_fill]
    omega

theorem fromBE_clearLastBit (l : Bytes) : fromBE (clearLastBit l) = fromBE l / 2 * 2 := by
  simp only [fromBE, clearLastBit]
  split
  · simp_all [fromLE]
  · rename_i x r h
    rw [h, List.reverse_reverse, fromLE, fromLE, UInt8.toNat_and,
      show (0xfe : UInt8).toNat = 2 ^ 8 - 2 ^ 1 from rfl, land_floor x.toNat_lt (by decide)]
    omega

theorem bytesAnd_length {a b : Bytes} (h : a.length = b.length) : (bytesAnd a b).length = a.length := by
  simp [bytesAnd, h]

theorem blockRange_length {addr mask : Bytes} (p : Nat) {n : Nat} (ha : addr.length = n) (hm : mask.length = n) :
    (blockRange addr mask p).left.length = n ∧ (blockRange addr mask p).right.length = n := by
  unfold blockRange
  dsimp only
  split <;> simp [setLastBit_length, clearLastBit_length, bytesAnd, bytesOrNot, ha, hm]

theorem byteOnes_spec {v : UInt8} {n : Nat} (h : byteOnes v = some n) : v = maskByte n ∧ n ≤ 8 := by
  unfold byteOnes at h
  have hm := List.find?_some h
  exact ⟨(eq_of_beq hm).symm, Nat.le_of_lt_succ (List.mem_range.mp (List.mem_of_find?_eq_some h))⟩

/-! ### lengths: the dotted-quad parser yields 4 octets, the IPv6 parser 16 bytes -/

theorem v4go_len {s : Bytes} {first prevDot : Bool} {val pos digLen : Nat} {acc f : Bytes}
    (ha : acc.length = pos) (hp : pos ≤ 3) (h : v4go s first prevDot val pos digLen acc = some f) : f.length = 4 := by
  fun_induction v4go s first prevDot val pos digLen acc
  case case2 => cases h; simp; omega                -- end of string: the fourth octet is appended
  case case5 ih => exact ih ha hp h                   -- a digit
  case case8 hp3 ih =>                                -- a dot: one more octet
    exact ih (by simp [ha]) (by simp at hp3; omega) h
  all_goals cases h

theorem parseV4_len {s f : Bytes} (h : parseV4Fields s = some f) : f.length = 4 :=
  v4go_len (acc := []) rfl (Nat.zero_le 3) h

/-- the array index of netip.parseIPv6 stays even and within the 16 bytes -/
theorem v6loop_len {fuel : Nat} {s ip : Bytes} {ell : Option Nat} {ip' : Bytes} {ell' : Option Nat} {rest : Bytes}
    (h2 : ip.length % 2 = 0) (h16 : ip.length ≤ 16) (h : v6loop fuel s ip ell = some (ip', ell', rest)) :
    ip'.length % 2 = 0 ∧ ip'.length ≤ 16 := by
  fun_induction v6loop fuel s ip ell
  case case1 | case2 => cases h; exact ⟨h2, h16⟩      -- loop left: nothing appended
  case case8 f hf _ => cases h; simp [parseV4_len hf]; omega   -- embedded IPv4 tail, guarded by `+ 4 ≤ 16`
  case case9 => cases h; simp; omega                  -- last group, end of string
  -- a group followed by "::" at the end, then by "::" or ":" and more
  case case13 => obtain ⟨rfl, -⟩ := Prod.mk.inj (Option.some.inj h); simp +zetaDelta; omega
  case case14 ih | case15 ih => exact ih (by simp +zetaDelta; omega) (by simp +zetaDelta; omega) h
  all_goals cases h

theorem parseV6_len {s a : Bytes} (h : parseV6 s = some a) : a.length = 16 := by
  revert h
  fun_cases parseV6 s
  case case2 => rintro ⟨⟩; exact zeros_length 16      -- "::"
  case case6 => rintro ⟨⟩; simp; omega                -- "::" expanded to 16 - length zero bytes
  case case8 hl _ _ _ =>                              -- no "::": the loop wrote all 16 bytes
    rintro ⟨⟩; have := (v6loop_len rfl (Nat.zero_le _) hl).2; omega
  all_goals rintro ⟨⟩

theorem to4_len {a a4 : Bytes} (h : to4 a = some a4) : a4.length = 4 := by
  revert h
  fun_cases to4 a
  case case1 h4 => rintro ⟨⟩; exact eq_of_beq h4     -- 4 bytes already
  case case2 hc =>                                    -- 16 bytes under the IPv4-in-IPv6 prefix: the last 4
    rintro ⟨⟩; rw [List.length_drop, eq_of_beq (Bool.and_eq_true_iff.mp hc).1]
  case case3 => rintro ⟨⟩

theorem to16_four {x : Bytes} (h : x.length = 4) : to16 x = some (v4InV6Prefix ++ x) := by simp [to16, h]
theorem to16_sixteen {x : Bytes} (h : x.length = 16) : to16 x = some x := by simp [to16, h]

theorem v4_embed {x : Bytes} (h : x.length = 4) : fromBE (v4InV6Prefix ++ x) = v4Base + fromBE x := by
  rw [fromBE_append, h]
  have : fromBE v4InV6Prefix = 0xffff := by decide
  rw [this]; rfl

theorem ofNat_toNat (a : UInt8) : UInt8.ofNat a.toNat = a := by simp

end Ps3.Proof.IPBlock
