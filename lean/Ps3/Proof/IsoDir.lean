/-
  What the reader's walk (Spec/IsoDir.lean) does on what the generator writes: one record, one gap, a run of records
  from any position, one path table entry.
-/
import Ps3.Spec.IsoDir
import Ps3.Props.C08
import Ps3.Proof.Seg
namespace Ps3.Spec.IsoDir
open Ps3.Viso Ps3.Proof.Seg

theorem recSize_bounds (r : DirRec) (h : RecOk r) : 34 ≤ r.size ∧ r.size ≤ 255 := by
  have := h.ident
  unfold DirRec.size
  omega

theorem getElem_at {α : Type} (pre : List α) (x : α) (post : List α) (n : Nat) (h : pre.length = n) :
    (pre ++ (x :: post))[n]? = some x := by
  subst h
  simp

/-- `r.encode` cut at the field boundaries of ECMA-119 9.1; the last piece is the padding byte -/
def recSegs (r : DirRec) : List Bytes :=
  [[UInt8.ofNat r.size, 0], leN 4 r.extLoc, beN 4 r.extLoc, leN 4 r.extLen, beN 4 r.extLen, r.time,
   [UInt8.ofNat r.flags], [0, 0], lsbmsb 2 1, [UInt8.ofNat r.ident.length], r.ident,
   if (r.ident.length + 1) % 2 > 0 then [0] else []]

theorem encode_recSegs (r : DirRec) : r.encode = (recSegs r).flatten := by
  simp [DirRec.encode, recSegs, lsbmsb, List.append_assoc]

theorem recSegs_lens (r : DirRec) (ht : r.time.length = 7) :
    (recSegs r).map List.length =
      [2, 4, 4, 4, 4, 7, 1, 2, 4, 1, r.ident.length, (r.ident.length + 1) % 2] := by
  simp [recSegs, ht, Ps3.Props.C08.parityByte_length]

theorem parse_encode (r : DirRec) (h : RecOk r) (more : Bytes) : parseRec (r.encode ++ more) = some r := by
  have hs := recSize_bounds r h
  have hl := recSegs_lens r h.time
  have hb := encode_recSegs r
  have f_loc : slice (r.encode ++ more) 2 4 = leN 4 r.extLoc := hb ▸ seg_at hl 1 rfl (by simp) rfl more
  have f_len : slice (r.encode ++ more) 10 4 = leN 4 r.extLen := hb ▸ seg_at hl 3 rfl (by simp) rfl more
  have f_time : slice (r.encode ++ more) 18 7 = r.time := hb ▸ seg_at hl 5 rfl (by simp) rfl more
  have f_flags : (r.encode ++ more)[25]? = some (UInt8.ofNat r.flags) :=
    hb ▸ getElem?_of_slice (seg_at hl 6 rfl (by simp) rfl more)
  have f_il : (r.encode ++ more)[32]? = some (UInt8.ofNat r.ident.length) :=
    hb ▸ getElem?_of_slice (seg_at hl 9 rfl (by simp) rfl more)
  have f_id : slice (r.encode ++ more) 33 r.ident.length = r.ident := hb ▸ seg_at hl 10 rfl (by simp) rfl more
  have hl2 : r.size ≤ (r.encode ++ more).length := by
    rw [List.length_append, Ps3.Props.C08.record_length r h.time]; exact Nat.le_add_right _ _
  -- `parseRec` matches on its argument: the string becomes a variable `b` about which the field facts speak, and `b`
  -- is then shown with its head byte (the same step opens `step_rec` and `parsePt_encode`)
  obtain ⟨tl, htl⟩ : ∃ tl, r.encode ++ more = UInt8.ofNat r.size :: tl := hb ▸ ⟨_, rfl⟩
  generalize r.encode ++ more = b at *
  subst htl
  simp only [parseRec, f_il, f_loc, f_len, f_time, f_flags, f_id, Option.map_some, Option.getD_some,
    UInt8.toNat_ofNat_of_lt' (Nat.lt_succ_of_le hs.2), UInt8.toNat_ofNat_of_lt' (Nat.lt_of_le_of_lt h.ident (by decide)),
    UInt8.toNat_ofNat_of_lt' h.flags,
    fromLE_leN, Nat.mod_eq_of_lt (show r.extLoc < 256 ^ 4 from h.loc), Nat.mod_eq_of_lt (show r.extLen < 256 ^ 4 from h.len)]
  exact if_neg (not_or.2 ⟨Nat.not_lt.2 hs.1, not_or.2 ⟨Nat.not_lt.2 hl2, Nat.not_lt.2 (Nat.le_add_right _ _)⟩⟩)

/-- the records of a directory as they follow each other from position `pos` -/
def encodeFrom (pos : Nat) : List DirRec → Bytes
  | [] => []
  | r :: rest => zeros (recGap pos r) ++ (r.encode ++ encodeFrom (pos + recGap pos r + r.size) rest)

theorem step_rec (r : DirRec) (h : RecOk r) (pos fuel : Nat) (more : Bytes) :
    decodeRecsAux (fuel + 1) pos (r.encode ++ more) = r :: decodeRecsAux fuel (pos + r.size) more := by
  have hs := recSize_bounds r h
  have hp := parse_encode r h more
  have hdrop : (r.encode ++ more).drop r.size = more := List.drop_left' (Ps3.Props.C08.record_length r h.time)
  obtain ⟨tl, htl⟩ : ∃ tl, r.encode ++ more = UInt8.ofNat r.size :: tl := encode_recSegs r ▸ ⟨_, rfl⟩
  generalize r.encode ++ more = b at *
  subst htl
  rw [decodeRecsAux]
  simp only [UInt8.toNat_ofNat_of_lt' (Nat.lt_succ_of_le hs.2), hp, hdrop,
    if_neg (Nat.ne_of_gt (Nat.lt_of_lt_of_le (Nat.zero_lt_succ 33) hs.1))]

theorem step_gap (pos fuel : Nat) (X : Bytes) :
    decodeRecsAux (fuel + 1) pos (zeros (sectorSize - pos % sectorSize) ++ X) =
      decodeRecsAux fuel (pos + (sectorSize - pos % sectorSize)) X := by
  obtain ⟨k, hk⟩ : ∃ k, sectorSize - pos % sectorSize = k + 1 :=
    Nat.exists_eq_succ_of_ne_zero (Nat.sub_ne_zero_of_lt (Nat.mod_lt _ (by decide)))
  rw [hk, zeros, List.replicate_succ, List.cons_append, decodeRecsAux]
  simp only [UInt8.toNat_zero, if_true, hk]
  rw [← List.cons_append, ← List.replicate_succ, List.drop_left' List.length_replicate]

/-- a reader that starts inside the zero padding finds nothing more, wherever the padding ends -/
theorem decode_zeros (fuel pos k : Nat) : decodeRecsAux fuel pos (zeros k) = [] := by
  induction fuel generalizing pos k with
  | zero => rfl
  | succ f ih =>
    cases k with
    | zero => rfl
    | succ k =>
      rw [zeros, List.replicate_succ, decodeRecsAux]
      simp only [UInt8.toNat_zero, if_true, ← List.replicate_succ, List.drop_replicate]
      exact ih _ _

/-- the walk from any `pos` with any zero tail; `C08.records_roundtrip` is the case `pos = 0` -/
theorem decode_encodeFrom (rs : List DirRec) (hok : ∀ r ∈ rs, RecOk r) :
    ∀ (pos fuel k : Nat), (encodeFrom pos rs).length + 2 ≤ fuel → decodeRecsAux fuel pos (encodeFrom pos rs ++ zeros k) = rs := by
  induction rs with
  | nil => intro pos fuel k _; exact decode_zeros fuel pos k
  | cons r rest ih =>
    intro pos fuel k hf
    obtain ⟨hr, hrest⟩ := List.forall_mem_cons.mp hok
    have hs := recSize_bounds r hr
    simp only [encodeFrom, List.length_append, zeros_length, Ps3.Props.C08.record_length r hr.time] at hf
    -- a gap and a record take two units of fuel and at least 34 bytes
    obtain ⟨f, rfl⟩ : ∃ f, fuel = f + 1 + 1 := ⟨fuel - 2, by omega⟩
    simp only [encodeFrom, List.append_assoc]
    have hg : recGap pos r = 0 ∨ recGap pos r = sectorSize - pos % sectorSize := by
      unfold recGap; dsimp only; split
      · exact .inr rfl
      · exact .inl rfl
    rcases hg with hg | hg <;> rw [hg] at hf ⊢
    · rw [Nat.add_zero pos] at hf ⊢
      rw [zeros, List.replicate_zero, List.nil_append, step_rec r hr pos (f + 1), ih hrest _ (f + 1) _ (by omega)]
    · rw [step_gap pos (f + 1), step_rec r hr _ f, ih hrest _ f _ (by omega)]

theorem foldl_encodeFrom (rs : List DirRec) (h : ∀ r ∈ rs, r.encode.length = r.size) (acc : Bytes) :
    rs.foldl (fun (acc : Bytes) r => acc ++ zeros (recGap acc.length r) ++ r.encode) acc = acc ++ encodeFrom acc.length rs := by
  induction rs generalizing acc with
  | nil => simp [encodeFrom]
  | cons r rest ih =>
    simp only [List.foldl_cons, encodeFrom]
    rw [ih (fun x hx => h x (List.mem_cons_of_mem _ hx))]
    simp only [List.length_append, zeros_length, h r List.mem_cons_self, List.append_assoc, Nat.add_assoc]

/-- `e.encode big` cut at the field boundaries of ECMA-119 9.4; the last piece is the padding byte -/
def ptSegs (e : PtEntry) (big : Bool) : List Bytes :=
  [[UInt8.ofNat e.ident.length, 0], if big then beN 4 e.loc else leN 4 e.loc,
   if big then beN 2 e.parent else leN 2 e.parent, e.ident, if e.ident.length % 2 > 0 then [0] else []]

theorem encode_ptSegs (e : PtEntry) (big : Bool) : e.encode big = (ptSegs e big).flatten := by
  simp [PtEntry.encode, ptSegs, List.append_assoc]

theorem ptSegs_lens (e : PtEntry) (big : Bool) :
    (ptSegs e big).map List.length = [2, 4, 2, e.ident.length, e.ident.length % 2] := by
  cases big <;> simp [ptSegs, Ps3.Props.C08.parityByte_length]

theorem parsePt_encode (e : PtEntry) (h : PtOk e) (big : Bool) (more : Bytes) :
    parsePt (e.encode big ++ more) big = some (e, (e.encode big).length) := by
  have hid := h.ident
  have hl := ptSegs_lens e big
  have hb := encode_ptSegs e big
  have f_loc : slice (e.encode big ++ more) 2 4 = (if big then beN 4 e.loc else leN 4 e.loc) :=
    hb ▸ seg_at hl 1 rfl (by simp) rfl more
  have f_par : slice (e.encode big ++ more) 6 2 = (if big then beN 2 e.parent else leN 2 e.parent) :=
    hb ▸ seg_at hl 2 rfl (by simp) rfl more
  have f_id : slice (e.encode big ++ more) 8 e.ident.length = e.ident := hb ▸ seg_at hl 3 rfl (by simp) rfl more
  have hl2 : (e.encode big).length ≤ (e.encode big ++ more).length := by simp
  obtain ⟨tl, htl⟩ : ∃ tl, e.encode big ++ more = UInt8.ofNat e.ident.length :: tl := hb ▸ ⟨_, rfl⟩
  rw [Ps3.Props.C08.ptEntry_encode_length] at hl2 ⊢
  generalize e.encode big ++ more = b at *
  subst htl
  simp only [parsePt, UInt8.toNat_ofNat_of_lt' (Nat.lt_succ_of_le hid.2), f_loc, f_par, f_id]
  rw [if_neg (not_or.2 ⟨Nat.ne_of_gt hid.1, Nat.not_lt.2 hl2⟩)]
  have h1 : e.loc % 256 ^ 4 = e.loc := Nat.mod_eq_of_lt h.loc
  have h2 : e.parent % 256 ^ 2 = e.parent := Nat.mod_eq_of_lt h.parent
  cases big <;> simp [fromLE_leN, fromBE_beN, h1, h2]

end Ps3.Spec.IsoDir
