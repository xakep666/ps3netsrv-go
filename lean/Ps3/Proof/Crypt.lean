/-
  Reads of the decrypting view (C10): `plainAll`, the whole image as `plainSector` renders it sector by sector, and
  every `readDec` is a window of it.
-/
import Ps3.Model.Crypt
import Ps3.Proof.Slice
namespace Ps3.Proof.Crypt
open Ps3.Crypt Ps3.Proof.Slice

theorem sectorSize_eq : sectorSize = 2048 := rfl

/-- number of sectors an image of `size` bytes spans -/
def nSectors (size : Nat) : Nat := (size + 2047) / 2048

/-- the whole decrypted view as one byte string: every sector as `plainSector` renders it -/
def plainAll (D : Nat → Bytes → Bytes) (gs : List Region) (rd : Nat → Nat → Bytes) (size : Nat) : Bytes :=
  ((List.range (nSectors size)).map (fun s => plainSector D gs s (rd (s * sectorSize) sectorSize))).flatten

/-- assumptions about the parameters: `rd` reads a file of `size` bytes, the cipher keeps lengths -/
structure Env (D : Nat → Bytes → Bytes) (rd : Nat → Nat → Bytes) (size : Nat) : Prop where
  rdLen : ∀ off n, (rd off n).length = min n (size - off)
  dLen : ∀ s x, (D s x).length = x.length

theorem flatten_map_range_add {α : Type} (P : Nat → List α) (a b : Nat) :
    ((List.range (a + b)).map P).flatten =
      ((List.range a).map P).flatten ++ ((List.range b).map (fun k => P (a + k))).flatten := by
  rw [List.range_add, List.map_append, List.flatten_append, List.map_map]; rfl

-- The lengths below carry the literal 2048 on the right, like `nSectors`: `omega` needs the numeral.
theorem plainSector_length {D rd size} (E : Env D rd size) (gs : List Region) (s : Nat) :
    (plainSector D gs s (rd (s * sectorSize) sectorSize)).length = min 2048 (size - s * 2048) := by
  unfold plainSector
  split
  · rw [E.dLen, E.rdLen, sectorSize_eq]
  · rw [E.rdLen, sectorSize_eq]

theorem plainPrefix_length {D rd size} (E : Env D rd size) (gs : List Region) (m : Nat) :
    (((List.range m).map (fun s => plainSector D gs s (rd (s * sectorSize) sectorSize))).flatten).length
      = min (m * 2048) size := by
  induction m with
  | zero => simp
  | succ m ih =>
    rw [List.range_succ, List.map_append, List.flatten_append, List.length_append, ih, List.map_singleton,
      List.flatten_singleton, plainSector_length E]
    omega

theorem plainAll_length {D rd size} (E : Env D rd size) (gs : List Region) : (plainAll D gs rd size).length = size := by
  rw [plainAll, plainPrefix_length E, nSectors]
  omega

/-- **C10 core** (`C10.view_eq_plain`). Stated for `hdrClear = 0`; header clearing is `C10.clear_header`. -/
theorem readDec_eq_slice {D rd size} (E : Env D rd size) (gs : List Region) (off n : Nat) :
    readDec D gs rd size 0 off n = slice (plainAll D gs rd size) off n := by
  rw [slice_clip, plainAll_length E gs]
  unfold readDec
  extract_lets len s0 s1 body data
  split
  · rename_i h0
    rw [show min n (size - off) = 0 from eq_of_beq h0, slice_zero_len]
  rename_i h0
  rw [if_neg (Nat.not_lt_zero _)]
  -- Sector arithmetic first, each fact from as small a context as it needs (omega is slow on `/`
  -- next to `min`).
  have hin : off + len ≤ size ∧ 0 < len := by
    have : len = min n (size - off) := rfl
    have : len ≠ 0 := by simpa using h0
    omega
  have hlo : s0 * 2048 ≤ off := Nat.div_mul_le_self off 2048
  have h01 : s0 ≤ s1 := Nat.div_le_div_right (by omega)
  have hhi : off + len ≤ (s1 + 1) * 2048 ∧ s1 + 1 ≤ nSectors size := by
    have : s1 = (off + len - 1) / 2048 := rfl
    unfold nSectors
    omega
  -- the sectors before `s0`, the sectors `s0 … s1` the read covers, and the `r` sectors after them
  have hm : s0 + (s1 - s0 + 1) = s1 + 1 := by omega
  obtain ⟨r, hr⟩ := Nat.exists_eq_add_of_le hhi.2
  have hpre := plainPrefix_length E gs s0
  rw [Nat.min_eq_left (by omega)] at hpre
  unfold plainAll
  -- the read ends inside the sectors up to `s1`: first the `r` sectors go, then those before `s0`
  rw [hr, flatten_map_range_add _ _ r,
    slice_append_left (plainPrefix_length E gs _ ▸ Nat.le_min.mpr ⟨hhi.1, hin.1⟩),
    ← hm, flatten_map_range_add _ s0, slice_append_right (hpre ▸ hlo), hpre]
  rfl

end Ps3.Proof.Crypt
