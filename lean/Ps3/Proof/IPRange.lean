/-
  Arithmetic on naturals under the IP range proofs (C14): comparing and flooring numbers digit by digit,
  and what AND / OR with a mask of the form 1…10…0 / 0…01…1 does to a number.
-/
namespace Ps3.Proof.IPRange

/-- a smaller leading digit decides, whatever follows -/
theorem digit_lt {x y X Y M : Nat} (h : x < y) (hX : X < M) : x * M + X < y * M + Y := by
  have := Nat.mul_le_mul_right M h
  rw [Nat.succ_mul] at this
  omega

/-- flooring leaves the digits above `2^w` alone when `h ≤ w` … -/
theorem floor_low {a R w h : Nat} (hh : h ≤ w) :
    (a * 2 ^ w + R) / 2 ^ h * 2 ^ h = a * 2 ^ w + R / 2 ^ h * 2 ^ h := by
  obtain ⟨d, rfl⟩ : ∃ d, w = d + h := ⟨w - h, by omega⟩
  rw [Nat.pow_add, ← Nat.mul_assoc, Nat.add_comm, Nat.add_mul_div_right _ _ (Nat.pow_pos (by decide)),
    Nat.add_mul, Nat.add_comm]

/-- … and clears all digits below `2^w` when `h = j + w` -/
theorem floor_high {a R w j : Nat} (hR : R < 2 ^ w) :
    (a * 2 ^ w + R) / 2 ^ (j + w) * 2 ^ (j + w) = a / 2 ^ j * 2 ^ j * 2 ^ w := by
  rw [Nat.pow_add, Nat.mul_comm (2 ^ j), ← Nat.div_div_eq_div_mul, Nat.add_comm,
    Nat.add_mul_div_right _ _ (Nat.pow_pos (by decide)), Nat.div_eq_of_lt hR, Nat.zero_add,
    Nat.mul_comm (2 ^ w), Nat.mul_assoc]

theorem testBit_floor (x j i : Nat) : (x / 2 ^ j * 2 ^ j).testBit i = (decide (j ≤ i) && x.testBit i) := by
  rw [Nat.mul_comm, Nat.testBit_two_pow_mul, Nat.testBit_div_two_pow]
  by_cases h : j ≤ i <;> simp [h]

/-- AND with the mask `1…10…0` (`w` bits, `j` zeros) clears the low `j` bits -/
theorem land_floor {x w j : Nat} (hx : x < 2 ^ w) (hj : j ≤ w) : x &&& (2 ^ w - 2 ^ j) = x / 2 ^ j * 2 ^ j := by
  apply Nat.eq_of_testBit_eq; intro i
  have hp : 0 < 2 ^ j := Nat.pow_pos (by decide)
  have hjw : 2 ^ j ≤ 2 ^ w := Nat.pow_le_pow_right (by decide) hj
  -- bit `i` of the mask is set iff `j ≤ i < w`: written `2^w - (n + 1)` with `n = 2^j - 1` (all ones below `j`), the
  -- mask has below `w` the bits that `n` lacks
  rw [Nat.testBit_and, testBit_floor, show 2 ^ w - 2 ^ j = 2 ^ w - ((2 ^ j - 1) + 1) by omega,
    Nat.testBit_two_pow_sub_succ (by omega), Nat.testBit_two_pow_sub_one]
  by_cases hi : i < w
  · simp [hi, Bool.and_comm, ← Nat.not_lt]
  · simp [hi, Nat.testBit_lt_two_pow (Nat.lt_of_lt_of_le hx (Nat.pow_le_pow_right (by decide) (Nat.not_lt.mp hi)))]

/-- OR with `0…01…1` (`j` ones) sets the low `j` bits -/
theorem lor_fill (x j : Nat) : x ||| (2 ^ j - 1) = x / 2 ^ j * 2 ^ j + (2 ^ j - 1) := by
  have hp : 0 < 2 ^ j := Nat.pow_pos (by decide)
  -- the floor has no bit below `j` and the fill none from `j` up, so their sum is their OR
  rw [Nat.mul_comm, Nat.two_pow_add_eq_or_of_lt (by omega)]
  apply Nat.eq_of_testBit_eq; intro i
  rw [Nat.testBit_or, Nat.testBit_or, Nat.mul_comm, testBit_floor, Nat.testBit_two_pow_sub_one]
  by_cases hji : i < j <;> simp [hji, ← Nat.not_lt]

end Ps3.Proof.IPRange
