import Ps3.Model.Proto
namespace Ps3.Proof.Proto
open Ps3.Proto

theorem op_roundtrip : ∀ op ∈ [4644, 4645, 4646, 4647, 4648, 4649, 4650, 4651, 4652, 4653, 4654, 4655, 4656, 4657, 4658],
    fromBE (beN 2 op) = op :=
  fun op h => fromBE_beN_lt 2 op (by revert op; decide)

/-- a field that sits right after `pre` reads back the `v` encoded there; `hf` and `hd` are found by `rfl`, give `hd`
    when the split of `data` needs re-association -/
theorem getField_at {l : Layout} {name : String} {data : Bytes} (pre post : Bytes) {sz v : Nat} (hv : v < 256 ^ sz)
    (hf : l.field name = some (pre.length, sz) := by rfl) (hd : data = pre ++ (beN sz v ++ post) := by rfl) :
    getField l name data = v := by
  subst hd
  rw [getField, hf]
  simp only
  rw [slice_append_right (Nat.le_refl _), Nat.sub_self, slice_prefix _ _ _ (beN_length _ _),
    fromBE_beN_lt _ _ hv]

/-- what `decode` reads off a complete command: opcode, 14 bytes of arguments, then whatever follows -/
theorem decode_header (s : Bytes) {op : Nat} {data rest : Bytes} (hs : s = beN 2 op ++ (data ++ rest))
    (hop : op < 65536 := by decide) (hd : data.length = 14 := by simp) :
    ¬ s.length < cmdSize ∧ getField Gen.proto_layout_Command "OpCode" s = op ∧
      slice s ((Layout.field Gen.proto_layout_Command "Data").getD (2, 14)).1 14 = data ∧ s.drop cmdSize = rest := by
  subst hs
  have hc : cmdSize = 16 := rfl
  refine ⟨by simp [hc, hd]; omega, getField_at [] (data ++ rest) hop, ?_, ?_⟩
  · show slice _ 2 14 = data
    rw [slice_append_right (by simp), beN_length, slice_prefix _ _ _ hd]
  · rw [hc, ← List.append_assoc, List.drop_left' (by simp [hd])]

/-- The length-prefixed tail of `decode` (its local `withPath`, and the WRITE_FILE case), on a stream that begins with
    the `n` announced bytes. The left side is that `if` verbatim, so this applies only while `decode` keeps the shape. -/
theorem announced_eq {n : Nat} {p : Bytes} (hn : n = p.length) (rest : Bytes) (mk : Bytes → Req) :
    (if (p ++ rest).length < n then Decoded.incomplete else .req (mk ((p ++ rest).take n)) ((p ++ rest).drop n)) =
      .req (mk p) rest := by
  subst hn
  simp

end Ps3.Proof.Proto
