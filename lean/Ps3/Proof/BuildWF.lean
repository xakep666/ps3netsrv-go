/-
  `build` always produces a well-formed image (Spec.Viso.WF): the metadata area is exactly as long as
  the layout arithmetic (calculateSizes) assumed, the member files occupy consecutive sector runs right
  behind it in scan order, their recorded sizes are their inodes' sizes, and the pad area follows.
  With this, the byte-level theorems of C07/C09/C20 hold for every tree.
-/
import Ps3.Proof.Scan
import Ps3.Proof.Recs
import Ps3.Props.C08
import Ps3.Spec.Viso
import Ps3.Proof.Seg
namespace Ps3.Proof.BuildWF
open Ps3.Viso Ps3.Spec.Viso Ps3.Proof.Seg
open Ps3.Props.C08 (dirLoc dirLen)
open Ps3.Proof.IsoTree (dirBase)

theorem recsBody_length (rs : List DirRec) (h : ∀ r ∈ rs, r.encode.length = r.size) (acc : Bytes) :
    (rs.foldl (fun (acc : Bytes) r => acc ++ zeros (recGap acc.length r) ++ r.encode) acc).length =
      rs.foldl (fun pos r => pos + recGap pos r + r.size) acc.length := by
  induction rs generalizing acc with
  | nil => rfl
  | cons r rest ih =>
    rw [List.foldl_cons, List.foldl_cons, ih (fun x hx => h x (List.mem_cons_of_mem _ hx))]
    simp [h r List.mem_cons_self, Nat.add_assoc]

theorem encodeRecs_length {rs : List DirRec} (h : ∀ r ∈ rs, r.encode.length = r.size) :
    (encodeRecs rs).length = sectors (recsSize rs) * sectorSize := by
  rw [← show _ = recsSize rs from recsBody_length rs h []]
  -- `body ++ zeros (… - body.length)` is `padTo body … 0` up to unfolding
  exact padTo_length (sectors_mul_ge _)

def identSize (id : Bytes) : Nat := 33 + id.length + (id.length + 1) % 2

theorem recsSize_congr {a b : List DirRec} (h : a.map (·.size) = b.map (·.size)) : recsSize a = recsSize b := by
  unfold recsSize
  generalize 0 = p
  induction a generalizing b p with
  | nil => cases b with | nil => rfl | cons _ _ => simp at h
  | cons r rest ih =>
    cases b with
    | nil => simp at h
    | cons r' rest' =>
      simp only [List.map_cons, List.cons.injEq] at h
      simp only [List.foldl_cons, recGap, h.1]
      exact ih h.2 _

theorem recsOf_getElem? (L : Layout) (joliet : Bool) (dirLBA k : Nat) :
    (L.recsOf joliet dirLBA)[k]? = L.items[k]?.map (finalRecs L.items L.rootLen joliet dirLBA L.filesLBA k) := by
  unfold Layout.recsOf
  rw [Recs.range_filterMap_getElem (fun k it => finalRecs L.items L.rootLen joliet dirLBA L.filesLBA k it),
    List.getElem?_map, List.getElem?_zipIdx]
  cases L.items[k]? <;> simp

def dirSegs (L : Layout) (joliet : Bool) (dirLBA : Nat) : List Bytes := (L.recsOf joliet dirLBA).map encodeRecs

theorem dirSegs_getElem? (L : Layout) (joliet : Bool) (dirLBA k : Nat) :
    (dirSegs L joliet dirLBA)[k]? =
      L.items[k]?.map (fun it => encodeRecs (finalRecs L.items L.rootLen joliet dirLBA L.filesLBA k it)) := by
  rw [dirSegs, List.getElem?_map, recsOf_getElem?]
  cases L.items[k]? <;> rfl

/-- each directory occupies exactly the sectors calculateSizes assumed -/
theorem dirSegs_lens (L : Layout) (joliet : Bool) (dirLBA : Nat) :
    (dirSegs L joliet dirLBA).map List.length = (dirSectors L.items joliet).map (· * sectorSize) := by
  apply List.ext_getElem?
  intro k
  rw [List.getElem?_map, dirSegs_getElem?, dirSectors, List.map_map, List.getElem?_map]
  cases L.items[k]? with
  | none => rfl
  | some it =>
    -- the final records differ from the shapes the sizes were computed from in locations and lengths only
    simp only [Option.map_some, Function.comp, Option.some.injEq]
    rw [encodeRecs_length (fun r hr => Props.C08.record_length r (Recs.finalRecs_time r hr)),
      recsSize_congr Recs.finalRecs_sizes]

theorem ptEntry_encode_eq_size (e : PtEntry) (big : Bool) (h : e.ident.length < 256) :
    (e.encode big).length = e.size := by
  rw [Props.C08.ptEntry_encode_length, PtEntry.size, Nat.mod_eq_of_lt h]
  split <;> omega

theorem encodePt_body_length (t : List PtEntry) (big : Bool) (h : ∀ e ∈ t, e.ident.length < 256) :
    ((t.map (fun e => e.encode big)).flatten).length = ptSize t := by
  rw [List.length_flatten, List.map_map, ptSize]
  exact congrArg List.sum (List.map_congr_left fun e he => ptEntry_encode_eq_size e big (h e he))

theorem encodePt_length {t : List PtEntry} (big : Bool) (h : ∀ e ∈ t, e.ident.length < 256) :
    (encodePt t big).length = sectors (ptSize t) * sectorSize := by
  rw [← encodePt_body_length t big h]
  -- a `padTo` up to unfolding, as in `encodeRecs_length`
  exact padTo_length (sectors_mul_ge _)

theorem ptSize_pathTable (items : List DirItem) (rootLen : Nat) (joliet : Bool) (D : Nat) :
    ptSize (pathTable items rootLen joliet D) = ptSize (pathTable items rootLen joliet 0) := by
  unfold ptSize pathTable
  simp only [List.map_filterMap, Option.map_map, Function.comp_def]
  -- the size of an entry looks at its identifier only; `D` enters its location
  rfl

theorem pathTable_ident_bound (items : List DirItem) (rootLen : Nat) (joliet : Bool) (D : Nat) :
    ∀ e ∈ pathTable items rootLen joliet D, e.ident.length < 256 := by
  intro e he
  obtain ⟨i, _, it, _, rfl⟩ := Recs.mem_lookups.mp he
  dsimp only
  split
  · decide
  · exact Nat.lt_of_le_of_lt (Props.C08.identifier_fits it.name joliet) (by decide)

/-- each of the four path tables occupies exactly the sectors calculateSizes reserved -/
theorem encodePt_pathTable_length (items : List DirItem) (rootLen : Nat) (joliet big : Bool) (D : Nat) :
    (encodePt (pathTable items rootLen joliet D) big).length =
      sectors (ptSize (pathTable items rootLen joliet 0)) * sectorSize := by
  rw [encodePt_length _ (pathTable_ident_bound items rootLen joliet D), ptSize_pathTable]

theorem linux_length_le (joliet : Bool) : (mangleUpper Gen.fs_aCharacters [108, 105, 110, 117, 120] joliet).length ≤ 32 := by
  cases joliet <;> decide

/-- 548 = 17 + 17 + 2 + 512: two unset timestamps, version and reserved byte, application use -/
theorem descBodyPost_length : descBodyPost.length = 548 := by
  unfold descBodyPost volTimeZero
  simp only [List.length_append, List.length_replicate, zeros_length, List.length_cons, List.length_nil]

theorem descHeader_length (typ : Nat) : (descHeader typ).length = 7 := by
  unfold descHeader
  rw [List.length_append, List.length_append, List.length_map]
  rfl

/-- 806 = 183 + 4 · 128 + 3 · 37: the fields up to the root directory record (`C08.descLens` without the header), the
    four 128-byte and the three 37-byte identifiers -/
theorem descBodyPre_length {joliet : Bool} {volumeName : Bytes} {volSectors ptBytes lLoc mLoc : Nat} {rootRec : DirRec}
    (hr : rootRec.encode.length ≤ 34) :
    (descBodyPre joliet volumeName volSectors ptBytes lLoc mLoc rootRec).length = 806 := by
  unfold descBodyPre
  have hl := linux_length_le joliet
  have hv : ((mangleUpper Gen.fs_dCharacters volumeName joliet).take 32).length ≤ 32 := List.length_take_le _ _
  have hv' := Nat.le_trans hv (by decide : 32 ≤ 128)
  have hj : (if joliet then ([37, 47, 64] : Bytes) else []).length ≤ 32 := by cases joliet <;> decide
  simp (disch := first | assumption | decide) only [List.length_append, List.length_cons, List.length_nil, zeros_length,
    lsbmsb_length, leN_length, beN_length, padTo_length]

theorem volumeDescriptor_length {typ : Nat} {joliet : Bool} {volumeName : Bytes} {volSectors ptBytes lLoc mLoc : Nat}
    {rootRec : DirRec} {clk : Clock} (hr : rootRec.encode.length ≤ 34) :
    (volumeDescriptor typ joliet volumeName volSectors ptBytes lLoc mLoc rootRec clk).length = sectorSize := by
  unfold volumeDescriptor
  rw [List.length_append, descHeader_length, padTo_length]
  · rfl
  · simp only [List.length_append, descBodyPre_length hr, volTime_length, descBodyPost_length]
    decide

theorem terminator_length : terminatorDescriptor.length = sectorSize := by
  unfold terminatorDescriptor
  rw [List.length_append, zeros_length]
  rfl

theorem dot_encode_length {loc len t : Nat} {id : UInt8} :
    (DirRec.encode ⟨loc, len, recTime t, 2, [id]⟩).length = 34 := by
  rw [Props.C08.record_length _ (Recs.recTime_length t)]
  simp [DirRec.size]

theorem rootRecOf_encode_length_le {L : Layout} {joliet : Bool} {D : Nat} : (rootRecOf (L.recsOf joliet D)).encode.length ≤ 34 := by
  unfold rootRecOf
  rw [List.head?_eq_getElem?, recsOf_getElem?]
  cases L.items[0]? with
  | none => show (DirRec.encode ⟨0, 0, [], 0, []⟩).length ≤ 34; decide
  | some it => exact Nat.le_of_eq dot_encode_length

theorem sysArea_length {L : Layout} (ps3 : Bool) (filler : Bytes) (hg : L.gameCode.length ≤ 31) :
    (sysArea L ps3 filler).length = 16 * sectorSize := by
  unfold sysArea
  split
  · have h1 : (beN 4 1 ++ zeros 4 ++ beN 4 0 ++ beN 4 (L.volSectors - 1)).length ≤ sectorSize := by
      simp only [List.length_append, beN_length, zeros_length]; decide
    have hc : (Gen.fs_consoleID : Bytes).length ≤ 16 := by decide
    have hp := productCode_length_le hg
    have hf := List.length_take_le 0x1C0 filler
    have h2 : (infoHead L ++ padTo (filler.take 0x1C0) 0x1C0 0).length ≤ sectorSize := by
      unfold infoHead
      simp (disch := assumption) only [List.length_append, padTo_length, zeros_length]
      decide
    unfold rangesSector
    simp (disch := assumption) only [List.length_append, padTo_length, zeros_length]
    rfl
  · exact zeros_length _

/-- the arithmetic half of what `layoutOf` establishes; the tree half is `IsoTree.TreeFacts` -/
structure LayoutFacts (w : World) (L : Layout) : Prop where
  game : L.gameCode.length ≤ 31
  ptSecs : L.ptSecs = sectors (ptSize (pathTable L.items L.rootLen false 0))
  ptJSecs : L.ptJSecs = sectors (ptSize (pathTable L.items L.rootLen true 0))
  iso : L.isoLBA = 16 + 3 + 1 + L.ptSecs * 2 + L.ptJSecs * 2
  joliet : L.jolietLBA = L.isoLBA + (dirSectors L.items false).sum
  files : L.filesLBA = L.jolietLBA + (dirSectors L.items true).sum
  run : ∃ e, runOk w 0 (allFiles L.items) e ∧ L.volumeSize = L.filesLBA + e
  vol : L.volSectors = L.volumeSize + L.padSectors
  fits : L.volumeSize + 2 * Gen.fs_basePadSectors ≤ maxSector
  pad : L.padSectors = padSectorsFor L.volumeSize
  dirs : L.items.length ≤ Gen.fs_pathTableItemsLimit

theorem layoutOf_facts {w : World} {root : Path} {ps3 : Bool} {L : Layout} (h : layoutOf w root ps3 = some L) :
    LayoutFacts w L := by
  obtain ⟨fsec, hgc, hscan, _, hpt, hptJ, hiso, hjoliet, hfiles, hvolSize, hpad, hvol⟩ := layoutOf_inv h
  -- every step of the scan appends the files of one directory, which continue the runs recorded so far
  have hrun : runOk w 0 (allFiles L.items) fsec :=
    Scan.scan_rule (fun _ acc s => runOk w 0 (allFiles acc) s)
      (fun _ _ _ hrun _ hI => by
        simp only [allFiles, List.map_append, List.flatten_append]
        exact Scan.runOk_append hI (by simpa using hrun)) hscan rfl
  exact { game := (gameCodeOf_bounds hgc).1, ptSecs := hpt, ptJSecs := hptJ, iso := hiso, joliet := hjoliet,
          files := hfiles, run := ⟨fsec, hrun, hvolSize⟩, vol := hvol, fits := (layoutOf_some h).2.1, pad := hpad,
          dirs := (layoutOf_some h).2.2 }

theorem file_within_volume {w : World} {root : Path} {ps3 : Bool} {L : Layout} (hL : layoutOf w root ps3 = some L)
    {it : DirItem} (hit : it ∈ L.items) {f : FileRef} (hf : f ∈ it.files) :
    (cfOf w f.ino).size = f.size ∧ f.rLBA + sectors f.size + L.filesLBA ≤ L.volumeSize := by
  obtain ⟨e, hrun, hvol⟩ := (layoutOf_facts hL).run
  have := (Scan.runOk_mem hrun).2 f (Scan.mem_allFiles hit hf)
  exact ⟨this.1, by omega⟩

/-! ### the metadata area, piece by piece

  `metaSegs` are the pieces writeFSStructures appends, `metaSecs` the sectors calculateSizes gives each of them.
  What sits at a known place of the image is located as a piece of this list: a window inside a piece by
  `meta_slice_in`, a whole piece by `Seg.seg_at`. -/

def metaSegs (L : Layout) (ps3 : Bool) (clk : Clock) (filler : Bytes) : List Bytes :=
  [sysArea L ps3 filler, pvdOf L clk, svdOf L clk, terminatorDescriptor, zeros sectorSize,
   encodePt (pathTable L.items L.rootLen false L.isoLBA) false, encodePt (pathTable L.items L.rootLen false L.isoLBA) true,
   encodePt (pathTable L.items L.rootLen true L.jolietLBA) false, encodePt (pathTable L.items L.rootLen true L.jolietLBA) true,
   (dirSegs L false L.isoLBA).flatten, (dirSegs L true L.jolietLBA).flatten]

def metaSecs (L : Layout) : List Nat :=
  [16, 1, 1, 1, 1, L.ptSecs, L.ptSecs, L.ptJSecs, L.ptJSecs, (dirSectors L.items false).sum, (dirSectors L.items true).sum]

theorem metaBytes_segs (L : Layout) (ps3 : Bool) (clk : Clock) (filler : Bytes) :
    metaBytes L ps3 clk filler = (metaSegs L ps3 clk filler).flatten := by
  simp [metaBytes, tablesAndDirs, metaSegs, dirSegs, List.append_assoc]

theorem metaSegs_lens {w : World} {L : Layout} (F : LayoutFacts w L) {ps3 : Bool} {clk : Clock} {filler : Bytes} :
    (metaSegs L ps3 clk filler).map List.length = (metaSecs L).map (· * sectorSize) := by
  simp only [metaSegs, metaSecs, List.map_cons, List.map_nil, sysArea_length ps3 filler F.game, pvdOf, svdOf,
    volumeDescriptor_length rootRecOf_encode_length_le, terminator_length, zeros_length, encodePt_pathTable_length,
    sum_length_flatten (dirSegs_lens L _ _), sum_mul, F.ptSecs, F.ptJSecs, Nat.one_mul]

/-- calculateSizes: the sectors before the primary directories, before the Joliet directories, and all of them -/
theorem metaSecs_sums {w : World} {L : Layout} (F : LayoutFacts w L) :
    ((metaSecs L).take 9).sum = L.isoLBA ∧ ((metaSecs L).take 10).sum = L.jolietLBA ∧ (metaSecs L).sum = L.filesLBA := by
  -- the defining equations are rewritten into the goal: as hypotheses they make omega many times slower
  rw [F.files, F.joliet, F.iso]
  simp only [metaSecs, List.take, List.sum_cons, List.sum_nil]
  omega

/-- a slice inside piece `k` of the metadata area, which starts at sector `o`; `rest` is whatever follows the
    metadata (nothing, or the file zone of the canonical image) -/
theorem meta_slice_in {w : World} {L : Layout} (F : LayoutFacts w L) {ps3 : Bool} {clk : Clock} {filler : Bytes}
    (k : Nat) {x : Bytes} (hk : (metaSegs L ps3 clk filler)[k]? = some x) {o : Nat} (ho : ((metaSecs L).take k).sum = o)
    (off n : Nat) (h : off + n ≤ x.length) (rest : Bytes) :
    slice (metaBytes L ps3 clk filler ++ rest) (o * sectorSize + off) n = slice x off n := by
  rw [metaBytes_segs, ← ho, ← sum_take_mul]
  exact slice_flatten_in_append (metaSegs_lens F) k hk off n h rest

theorem metaBytes_length {w : World} {L : Layout} (F : LayoutFacts w L) {ps3 : Bool} {clk : Clock} {filler : Bytes} :
    (metaBytes L ps3 clk filler).length = L.filesLBA * sectorSize := by
  rw [metaBytes_segs, sum_length_flatten (metaSegs_lens F), sum_mul, (metaSecs_sums F).2.2]

theorem sectors_zero : sectors 0 = 0 := by decide

/-- the non-empty files of a run, placed `F` sectors further on, lie back to back and fill the run; `fe` stands behind
    an equation so that `build_wf` can pass `L.files`, which is this list only up to unfolding (`Scan.layout_files_eq`) -/
theorem run_layout {w : World} (F : Nat) {fs : List FileRef} {s e : Nat} (h : runOk w s fs e) :
    ∀ fe, fe = (fs.filter (·.size != 0)).map (fun f => (⟨f.ino, f.size, f.rLBA + F⟩ : FileExt)) →
    Consec ((s + F) * sectorSize) fe ∧ (fe.map padded).sum + s * sectorSize = e * sectorSize := by
  induction fs generalizing s with
  | nil => rintro _ rfl; exact ⟨trivial, by simp [show s = e from h]⟩
  | cons f rest ih =>
    rintro _ rfl
    obtain ⟨h1, _, h3⟩ := h
    obtain ⟨c, p⟩ := ih h3 _ rfl
    rw [List.filter_cons]
    by_cases hz : f.size = 0
    · rw [hz, sectors_zero, Nat.add_zero] at c p
      simpa [hz] using And.intro c p
    · -- the rest starts where the padded extent of `f` ends, at `(s + F) * sectorSize + padded f`
      rw [Nat.add_right_comm, Nat.add_mul] at c
      rw [Nat.add_mul] at p
      rw [if_pos (by simpa using hz)]
      simp only [List.map_cons, List.sum_cons, Consec, padded]
      exact ⟨⟨by simp [h1], c⟩, by omega⟩

/-- **`build` yields a well-formed image, for every world, root and mode.** -/
theorem build_wf (w : World) (root : Path) (ps3 : Bool) (clk : Clock) (filler : Bytes) (img : Image)
    (h : build w root ps3 clk filler = some img) : WF img (cfOf w) := by
  obtain ⟨L, hL, rfl⟩ := Option.map_eq_some_iff.mp h
  have F := layoutOf_facts hL
  obtain ⟨e, hrun, hvol⟩ := F.run
  have hm : (imageOf L ps3 clk filler).fsBuf.length = L.filesLBA * sectorSize := metaBytes_length F
  obtain ⟨hc, hp⟩ := run_layout L.filesLBA hrun L.files (Scan.layout_files_eq L)
  rw [Nat.zero_add] at hc
  rw [Nat.zero_mul, Nat.add_zero] at hp
  refine { consec := hm ▸ hc, sizes := fun f hf => ?_, padStart := ?_, total := ?_,
           aligned := hm ▸ Nat.mul_mod_left _ _ }
  · obtain ⟨g, hg, rfl⟩ := List.mem_map.mp (Scan.layout_files_eq L ▸ show f ∈ L.files from hf)
    exact ((Scan.runOk_mem hrun).2 g (List.mem_filter.mp hg).1).1
  · show L.volumeSize * sectorSize = _ + (L.files.map padded).sum
    rw [hm, hvol, Nat.add_mul, ← hp]
  · show L.volSectors * sectorSize = L.volumeSize * sectorSize + L.padSectors * sectorSize
    rw [F.vol, Nat.add_mul]

/-- **Directory `k` sits in the image exactly where its records say**, in both hierarchies: the bytes
    at sector `dirLoc k`, `dirLen k` long, are the encoding of that directory's records (`rest`: nothing, or the
    file zone of the canonical image). -/
theorem dir_at_its_location {w : World} {L : Layout} (F : LayoutFacts w L) {ps3 : Bool} {clk : Clock} {filler : Bytes}
    {joliet : Bool} {k : Nat} {it : DirItem} (hk : L.items[k]? = some it) (rest : Bytes) :
    slice (metaBytes L ps3 clk filler ++ rest) (dirLoc L.items joliet (dirBase L joliet) k * sectorSize)
      (dirLen L.items joliet k) =
    encodeRecs (finalRecs L.items L.rootLen joliet (dirBase L joliet) L.filesLBA k it) := by
  unfold dirLoc dirLen dirBase
  have hn : ((dirSectors L.items joliet).map (· * sectorSize))[k]? =
      some ((dirSectors L.items joliet)[k]?.getD 0 * sectorSize) := by simp [dirSectors, hk]
  rw [Nat.add_comm, Nat.add_mul]
  generalize hD : (if joliet then L.jolietLBA else L.isoLBA) = D
  -- directory `k` inside the directory area of its hierarchy …
  have hl := dirSegs_lens L joliet D
  have hget := (dirSegs_getElem? L joliet D k).trans (congrArg _ hk)
  have hat := seg_at hl k hget (sum_take_mul _ _ _) hn []
  have hend := sum_length_flatten hl ▸ take_sum_add_le hn
  rw [sum_take_mul] at hend
  rw [List.append_nil] at hat
  refine Eq.trans ?_ hat
  -- … which is piece 9 or 10 of the metadata area
  cases joliet
  · subst hD; exact meta_slice_in F 9 rfl (metaSecs_sums F).1 _ _ hend rest
  · subst hD; exact meta_slice_in F 10 rfl (metaSecs_sums F).2.1 _ _ hend rest

end Ps3.Proof.BuildWF
