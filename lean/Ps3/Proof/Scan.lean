/-
  The scan loop has one invariant rule, `scan_rule`. `isFileAt`, `isDirAt` (namespace `Ps3.Props.C07`), `runOk`, `allFiles`,
  `cfOf` (namespace `Ps3.Proof.BuildWF`) are the definitions that the statements of Props/C07, C09, C20, Proof/BuildWF and
  the driver use.
-/
import Ps3.Model.Viso
namespace Ps3.Props.C07

def isFileAt (w : World) (path : Path) (n : Name) : Bool :=
  match w.stat (path ++ [n]) with
  | some (_, .file _) => true
  | _ => false

def isDirAt (w : World) (path : Path) (n : Name) : Bool :=
  match w.stat (path ++ [n]) with
  | some (_, .dir _) => true
  | _ => false

end Ps3.Props.C07

namespace Ps3.Proof.BuildWF
open Ps3.Viso

/-- the files `fs` occupy consecutive sector runs from `s` to `e`, with the sizes of their inodes -/
def runOk (w : World) : Nat → List FileRef → Nat → Prop
  | s, [], e => s = e
  | s, f :: rest, e => f.rLBA = s ∧ (∃ i, w.inode? f.ino = some i ∧ i.content.size = f.size) ∧
      runOk w (s + sectors f.size) rest e

def allFiles (items : List DirItem) : List FileRef := (items.map (·.files)).flatten

/-- the content function the server reads member files through -/
def cfOf (w : World) (i : Nat) : Content :=
  match w.inode? i with
  | some f => f.content
  | none => { size := 0, seed := 0 }

end Ps3.Proof.BuildWF

namespace Ps3.Proof.Scan
open Ps3.Viso Ps3.Props.C07 Ps3.Proof.BuildWF

theorem runOk_append {w : World} {a b : List FileRef} {s m e : Nat} (ha : runOk w s a m) (hb : runOk w m b e) :
    runOk w s (a ++ b) e := by
  induction a generalizing s with
  | nil => exact (show s = m from ha) ▸ hb
  | cons f rest ih => exact ⟨ha.1, ha.2.1, ih ha.2.2⟩

/-- one directory is scanned completely: every name becomes either a file record of this directory, stat'ed to
    its inode and given the next sector run, or a pushed sub-directory, in enumeration order -/
theorem scanEntries_spec {w : World} {path : Path} {names : List Name}
    {files : List FileRef} {stack : List Path} {s : Nat} {files' : List FileRef} {stack' : List Path} {s' : Nat}
    (h : scanEntries w path names files stack s = some (files', stack', s')) :
    ∃ new, files' = files ++ new ∧ new.map (·.name) = names.filter (isFileAt w path) ∧
      stack' = stack ++ (names.filter (isDirAt w path)).map (fun n => path ++ [n]) ∧
      (∀ n ∈ names, isFileAt w path n = true ∨ isDirAt w path n = true) ∧
      runOk w s new s' ∧ (∀ f ∈ new, ∃ q, w.stat (path ++ [f.name]) = some (q, .file f.ino)) := by
  fun_induction scanEntries w path names files stack s with
  | case1 => cases h; exact ⟨[], by simp [runOk]⟩
  -- `n` is a sub-directory: pushed
  | case3 n rest files stack s q mt hst ih =>
    obtain ⟨new, hfiles, hnames, hstack, hkinds, hrun, hstat⟩ := ih h
    have hd : isDirAt w path n = true := by simp [isDirAt, hst]
    have hf : isFileAt w path n = false := by simp [isFileAt, hst]
    exact ⟨new, hfiles, by simp [hf, hnames], by simp [hd, hstack], List.forall_mem_cons.mpr ⟨.inr hd, hkinds⟩,
      hrun, hstat⟩
  -- `n` is a regular file with inode `i`: recorded at the next sector run
  | case5 n rest files stack s q i hst f hf ih =>
    obtain ⟨new, hfiles, hnames, hstack, hkinds, hrun, hstat⟩ := ih h
    have hd : isDirAt w path n = false := by simp [isDirAt, hst]
    have hfi : isFileAt w path n = true := by simp [isFileAt, hst]
    exact ⟨(⟨i, n, f.content.size, s, f.mtime⟩ : FileRef) :: new, by simp [hfiles], by simp [hfi, hnames],
      by simp [hd, hstack], List.forall_mem_cons.mpr ⟨.inl hfi, hkinds⟩, ⟨rfl, ⟨f, hf, rfl⟩, hrun⟩,
      List.forall_mem_cons.mpr ⟨⟨q, hst⟩, hstat⟩⟩
  | case2 | case4 | case6 => cases h

/-- the invariant rule of the scan loop: one step pops `path`, records its files, pushes its sub-directories -/
theorem scan_rule {w : World} (I : List Path → List DirItem → Nat → Prop)
    (step : ∀ {rest : List Path} {acc : List DirItem} {s : Nat} {path q : Path} {mt : Nat} {files : List FileRef} {s' : Nat},
      (hst : w.stat path = some (q, .dir mt)) →
      (hnames : files.map (·.name) = (dirNames w q).filter (isFileAt w path)) →
      (hkinds : ∀ n ∈ dirNames w q, isFileAt w path n = true ∨ isDirAt w path n = true) →
      (hrun : runOk w s files s') →
      (hstat : ∀ f ∈ files, ∃ q', w.stat (path ++ [f.name]) = some (q', .file f.ino)) →
      (hI : I (rest ++ [path]) acc s) →
      I (rest ++ ((dirNames w q).filter (isDirAt w path)).map (fun n => path ++ [n]))
        (acc ++ [⟨path, path.getLast?.getD [], mt, files⟩]) s')
    {fuel : Nat} {stack : List Path} {acc : List DirItem} {s : Nat} {items : List DirItem} {e : Nat}
    (h : scan w fuel stack acc s = some (items, e)) (h0 : I stack acc s) : I [] items e := by
  fun_induction scan w fuel stack acc s with
  | case1 => cases h; exact h0
  | case2 => cases h
  | case3 _ _ _ _ hne hlast => exact (hne (List.getLast?_eq_none_iff.mp hlast)).elim
  | case4 => cases h
  -- `hlast`: `path` is the last of the stack; `hst`: it is a directory; `hse`: its entries were scanned
  | case5 _ stack _ _ _ path hlast _ _ hst _ _ _ hse ih =>
    obtain ⟨rest, rfl⟩ := List.getLast?_eq_some_iff.mp hlast
    rw [List.dropLast_concat] at hse
    obtain ⟨new, hfiles, hnames, rfl, hkinds, hrun, hstat⟩ := scanEntries_spec hse
    rw [List.nil_append] at hfiles
    subst hfiles
    exact ih h (step hst hnames hkinds hrun hstat h0)
  | case6 => cases h

theorem runOk_mem {w : World} {fs : List FileRef} {s e : Nat} (h : runOk w s fs e) :
    s ≤ e ∧ ∀ f ∈ fs, (cfOf w f.ino).size = f.size ∧ f.rLBA + sectors f.size ≤ e := by
  induction fs generalizing s with
  | nil => exact ⟨Nat.le_of_eq h, by simp⟩
  | cons g rest ih =>
    obtain ⟨rfl, ⟨i, hi, hsz⟩, hrest⟩ := h
    obtain ⟨hle, hall⟩ := ih hrest
    exact ⟨by omega, List.forall_mem_cons.mpr ⟨⟨by simp [cfOf, hi, hsz], hle⟩, hall⟩⟩

theorem mem_allFiles {items : List DirItem} {it : DirItem} {f : FileRef} (hit : it ∈ items) (hf : f ∈ it.files) :
    f ∈ allFiles items :=
  List.mem_flatten.mpr ⟨it.files, List.mem_map.mpr ⟨it, hit, rfl⟩, hf⟩

theorem layout_files_eq (L : Layout) :
    L.files = ((allFiles L.items).filter (·.size != 0)).map fun f => ⟨f.ino, f.size, f.rLBA + L.filesLBA⟩ :=
  rfl

theorem mem_files {L : Layout} {f : FileRef} (hf : f ∈ allFiles L.items) (h0 : f.size ≠ 0) :
    (⟨f.ino, f.size, f.rLBA + L.filesLBA⟩ : FileExt) ∈ L.files :=
  layout_files_eq L ▸ List.mem_map.mpr ⟨f, List.mem_filter.mpr ⟨hf, bne_iff_ne.mpr h0⟩, rfl⟩

end Ps3.Proof.Scan
