/-
  Reads of a generated image (C09). The image is one string, `flat`: metadata, then every file padded to whole sectors,
  then the pad area. `Image.read` walks these three zones with a cursor and `readFiles` walks the files the same way;
  each step is `slice_append_cursor`, so whatever the offset and the length, a read is a window of `flat`.
-/
import Ps3.Spec.Viso
import Ps3.Proof.Content
namespace Ps3.Proof.Viso
open Ps3.Viso Ps3.Spec.Viso Ps3.Proof.Slice

theorem fileBytes_eq (cf : Nat → Content) (f : FileExt) (hs : (cf f.ino).size = f.size) :
    fileBytes cf f = (cf f.ino).all ++ zeros (padded f - f.size) := by
  rw [fileBytes, ← hs]; rfl

theorem fileBytes_length (cf : Nat → Content) (f : FileExt) (hs : (cf f.ino).size = f.size) :
    (fileBytes cf f).length = padded f := by
  rw [fileBytes_eq cf f hs, List.length_append, Content.all_length, zeros_length, hs]
  exact Nat.add_sub_cancel' (sectors_mul_ge f.size)

theorem flatFiles_cons (cf : Nat → Content) (f : FileExt) (rest : List FileExt) :
    flatFiles cf (f :: rest) = fileBytes cf f ++ flatFiles cf rest := by simp [flatFiles]

/-- `start ≤ off` is asked only of a read that still wants bytes: when a read ends inside a file the
    recursive call has `remain = 0` and an offset before the next file, and the induction meets that case. -/
theorem readFiles_eq_slice (cf : Nat → Content) (fs : List FileExt) (start off remain : Nat) (hc : Consec start fs)
    (hsz : ∀ f ∈ fs, (cf f.ino).size = f.size) (hle : remain ≠ 0 → start ≤ off) :
    readFiles cf fs off remain = slice (flatFiles cf fs) (off - start) remain := by
  induction fs generalizing start off remain with
  | nil => simp [readFiles, flatFiles, slice]
  | cons f rest ih =>
    by_cases hr : remain = 0
    · subst hr; simp [readFiles, slice_zero_len]
    · -- position `fo` in the file instead of `off`: the model's arithmetic on absolute offsets cancels
      obtain ⟨fo, rfl⟩ := Nat.exists_eq_add_of_le (hle hr)
      obtain ⟨hs, hsz⟩ := List.forall_mem_cons.mp hsz
      simp only [readFiles, beq_iff_eq, hr, if_false, hc.1, Nat.add_sub_cancel_left, Nat.add_assoc,
        Nat.add_sub_add_left, Nat.sub_sub]
      generalize hdata : (if fo < f.size then _ else _ : Bytes) = data
      generalize hpad : (if f.size % sectorSize > 0 ∧ remain - data.length > 0 then _ else 0 : Nat) = padN
      have hl := (Content.all_length (cf f.ino)).trans hs
      have hd : data = slice (cf f.ino).all fo remain := by
        rw [← hdata, ← hs]
        split
        · rw [Content.read_eq_slice_all, ← Content.all_length, ← slice_clip]
        · rw [slice_eq_nil (.inl (by omega))]
      -- what is delivered from this file, data then zeros, is the window of its padded bytes
      have hD : data ++ zeros padN = slice (fileBytes cf f) fo remain := by
        have hq := slice_cursor_ge (cf f.ino).all fo remain
        have h2 := sectors_mul_eq_of_dvd f.size
        rw [← hd, hl] at hq
        rw [fileBytes_eq cf f hs, padded, slice_append_cursor, ← hd, slice_zeros, hl]
        subst hpad
        congr 2
        split
        · rename_i more   -- the size is not sector aligned, and more is wanted: the data ran to the end of the file
          rw [Nat.sub_sub_sub_cancel_right (hq more.2), Nat.min_comm]
        · -- no pad: nothing more is wanted, or the size is a whole number of sectors
          generalize f.size % sectorSize = m at *
          generalize fo + data.length - f.size = t
          omega
      rw [show data.length + padN = (data ++ zeros padN).length by rw [List.length_append, zeros_length]]
      generalize data ++ zeros padN = D at hD ⊢
      have hp := fileBytes_length cf f hs
      -- if more is wanted after `D`, the window `D` was cut short by the end of this file: the cursor is past it
      have hnext : remain - D.length ≠ 0 → start + padded f ≤ start + (fo + D.length) := by
        intro more
        rw [hD] at more ⊢
        rw [← hp]
        exact Nat.add_le_add_left (slice_cursor_ge _ fo remain (Nat.pos_of_ne_zero more)) start
      rw [ih (start + padded f) _ _ hc.2 hsz hnext, Nat.add_sub_add_left, flatFiles_cons, slice_append_cursor, ← hD, hp]

/-- `readFiles_eq_slice` with `start ≤ off` unconditional -/
theorem readFiles_eq (cf : Nat → Content) :
    ∀ (fs : List FileExt) (start off remain : Nat), Consec start fs → (∀ f ∈ fs, (cf f.ino).size = f.size) →
      start ≤ off → readFiles cf fs off remain = slice (flatFiles cf fs) (off - start) remain :=
  fun fs start off remain hc hsz hle => readFiles_eq_slice cf fs start off remain hc hsz (fun _ => hle)

/-- the file zone as `Image.read` reads it — filesToRead drops the files that end at or before `off`,
    then `readFiles` runs from the first file kept — is a window of `flatFiles`. The left side is not a
    definition of the model: it is the inner `if` of `part2` in `Image.read`, copied, which `read_eq_slice`
    meets after `extract_lets`. `dw` stands for the `dropWhile` so that the induction can rewrite `hdw`. -/
theorem filesPart_eq (cf : Nat → Content) (off rem : Nat) (fs : List FileExt) (start : Nat) (hc : Consec start fs)
    (hsz : ∀ f ∈ fs, (cf f.ino).size = f.size) (hle : start ≤ off)
    (dw : List FileExt) (hdw : dw = fs.dropWhile (fun f => decide (off / sectorSize ≥ f.lba + sectors f.size))) :
    (if dw.isEmpty then [] else if off / sectorSize < (dw.head?.map (·.lba)).getD 0 then []
      else readFiles cf dw off rem) = slice (flatFiles cf fs) (off - start) rem := by
  induction fs generalizing start with
  | nil => subst hdw; simp [flatFiles, slice]
  | cons f rest ih =>
    rw [List.dropWhile_cons] at hdw
    split at hdw
    · rename_i hd
      -- `f` is dropped
      have hend : start + padded f ≤ off := by
        have := (Nat.le_div_iff_mul_le (by decide : 0 < sectorSize)).mp (of_decide_eq_true hd)
        rwa [Nat.add_mul, hc.1] at this
      obtain ⟨hs, hsz⟩ := List.forall_mem_cons.mp hsz
      have hl := fileBytes_length cf f hs
      rw [ih _ hc.2 hsz hend hdw, flatFiles_cons, slice_append_right (by omega), hl, Nat.sub_sub]
    · subst hdw
      have : ¬ off / sectorSize < f.lba :=
        Nat.not_lt.mpr ((Nat.le_div_iff_mul_le (by decide : 0 < sectorSize)).mpr (hc.1 ▸ hle))
      simp only [List.isEmpty_cons, Bool.false_eq_true, if_false, List.head?_cons, Option.map_some, Option.getD_some, this]
      exact readFiles_eq cf (f :: rest) start off rem hc hsz hle

theorem flatFiles_length (cf : Nat → Content) (fs : List FileExt) (hsz : ∀ f ∈ fs, (cf f.ino).size = f.size) :
    (flatFiles cf fs).length = (fs.map padded).sum := by
  induction fs with
  | nil => rfl
  | cons f rest ih =>
    obtain ⟨hs, hsz⟩ := List.forall_mem_cons.mp hsz
    rw [flatFiles_cons, List.length_append, fileBytes_length cf f hs, ih hsz]
    simp

theorem flat_length (img : Image) (cf : Nat → Content) (h : WF img cf) : (flat img cf).length = img.totalSize := by
  unfold flat
  rw [List.length_append, List.length_append, zeros_length, h.total, h.padStart, flatFiles_length cf _ h.sizes]
  omega

/-- **C09 core** (`C09.read_eq_slice`) -/
theorem read_eq_slice (img : Image) (cf : Nat → Content) (h : WF img cf) (off n : Nat) :
    img.read cf off n = slice (flat img cf) off n := by
  unfold Image.read
  by_cases h0 : off ≥ img.totalSize ∨ (n == 0) = true
  · rw [if_pos h0]
    exact (slice_eq_nil (h0.imp (fun h0 => (flat_length img cf h).symm ▸ h0) eq_of_beq)).symm
  rw [if_neg h0]
  have hF : img.padAreaStart = img.fsBuf.length + (flatFiles cf img.files).length := by
    rw [flatFiles_length cf _ h.sizes]; exact h.padStart
  have hT := h.total
  unfold flat
  generalize hFl : flatFiles cf img.files = F at hF ⊢
  extract_lets part1 off1 rem1 target fs part2 off2 rem2 part3
  -- Each part is the window that `slice_append_cursor` asks for in `fsBuf ++ (files ++ pad)`. Where the
  -- zones meet, all that is used of a window is `slice_cursor_ge`: cut short, it reached the end of its zone.
  have e1 : part1 = slice img.fsBuf off n := by
    show ite _ _ _ = _
    split
    · rfl
    · rw [slice_eq_nil (.inl (Nat.le_of_not_lt ‹_›))]
  have c1 : 0 < rem1 → img.fsBuf.length ≤ off1 := by
    show 0 < n - part1.length → _ ≤ off + part1.length
    rw [e1]; exact slice_cursor_ge _ off n
  rw [slice_append_cursor, ← e1]
  show _ = part1 ++ slice _ (off1 - _) rem1
  clear_value part1 off1 rem1
  split
  · rename_i h1
    rw [slice_eq_nil (h1.imp (fun _ => by rw [List.length_append, zeros_length]; omega) eq_of_beq), List.append_nil]
  rename_i h1
  have hge := c1 (Nat.pos_of_ne_zero fun h0 => h1 (.inr (by rw [h0]; rfl)))
  have e2 : part2 = slice F (off1 - img.fsBuf.length) rem1 := by
    by_cases hlt : off1 < img.padAreaStart
    · exact (if_pos hlt).trans (hFl ▸ filesPart_eq cf off1 rem1 img.files _ h.consec h.sizes hge fs rfl)
    · exact (if_neg hlt).trans (slice_eq_nil (.inl (by omega))).symm
  have c2 : 0 < rem2 → img.padAreaStart ≤ off2 := by
    show 0 < rem1 - part2.length → _ ≤ off1 + part2.length
    rw [e2]
    intro hp
    have := slice_cursor_ge F _ rem1 hp
    omega
  have e3 : part3 = slice (zeros img.padAreaSize) (off2 - img.padAreaStart) rem2 := by
    show ite _ _ _ = _
    -- `omega` below needs only `c2` and `hT`, and is slow with the values of the parts and the facts
    -- about the earlier zones in its context
    clear_value part2 off2 rem2
    clear c1 h1 hF hge
    rw [slice_zeros]
    split
    · rw [Nat.min_comm]
    · rw [show min rem2 (img.padAreaSize - (off2 - img.padAreaStart)) = 0 by omega]; rfl
  rw [slice_append_cursor, ← e2, List.append_assoc, e3]
  congr 3
  show off1 + part2.length - _ = _
  rw [hF, ← Nat.sub_sub, Nat.sub_add_comm hge]

theorem read_fun_eq_slice (img : Image) (cf : Nat → Content) (h : WF img cf) : img.read cf = slice (flat img cf) :=
  funext fun off => funext (read_eq_slice img cf h off)

end Ps3.Proof.Viso
