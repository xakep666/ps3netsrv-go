/-
  The records of a directory have one membership rule, `forall_mem_finalRecs`; the records of a file one shape,
  `shape_of_mem_fileRecs`. `dirLoc`, `dirLen` (namespace `Ps3.Props.C08`) and `dirBase` (namespace `Ps3.Proof.IsoTree`) say
  where directory `k` lies; the statements of Props/C07 and C08 use them.
-/
import Ps3.Model.Viso
namespace Ps3.Props.C08
open Ps3.Viso

/-- location (sector) and length (bytes) of directory `j` of one hierarchy -/
def dirLoc (items : List DirItem) (joliet : Bool) (dirLBA j : Nat) : Nat := prefixSum (dirSectors items joliet) j + dirLBA
def dirLen (items : List DirItem) (joliet : Bool) (j : Nat) : Nat := ((dirSectors items joliet)[j]?.getD 0) * sectorSize

end Ps3.Props.C08

namespace Ps3.Proof.IsoTree
open Ps3.Viso

/-- the base sector of one hierarchy's directory area -/
def dirBase (L : Layout) (joliet : Bool) : Nat := if joliet then L.jolietLBA else L.isoLBA

end Ps3.Proof.IsoTree

namespace Ps3.Proof.Recs
open Ps3.Viso
open Ps3.Props.C08 (dirLoc dirLen)

/-- the model's way of visiting items by index: `idxs.filterMap fun j => items[j]?.map (g j)` holds `g j c` for the
    indices `j ∈ idxs` that have an item `c` -/
theorem mem_lookups {α β : Type} {items : List α} {idxs : List Nat} {g : Nat → α → β} {b : β} :
    b ∈ idxs.filterMap (fun j => items[j]?.map (g j)) ↔ ∃ j ∈ idxs, ∃ c, items[j]? = some c ∧ g j c = b := by
  simp only [List.mem_filterMap, Option.map_eq_some_iff]

theorem filterMap_congr {α β : Type} (f g : α → Option β) (l : List α) (h : ∀ x ∈ l, f x = g x) :
    l.filterMap f = l.filterMap g := by
  induction l with
  | nil => rfl
  | cons a rest ih =>
    simp only [List.filterMap_cons, h a List.mem_cons_self]
    rw [ih (fun x hx => h x (List.mem_cons_of_mem _ hx))]

/-- the model's `(List.range items.length).filterMap (fun k => items[k]?.map (f k))` visits every item with its index -/
theorem range_filterMap_getElem {α β : Type} (f : Nat → α → β) (items : List α) :
    (List.range items.length).filterMap (fun k => items[k]?.map (f k)) =
      items.zipIdx.map (fun p => f p.2 p.1) := by
  rw [List.range_eq_range', ← List.zipIdx_map_snd 0 items, List.filterMap_map, ← List.filterMap_eq_map]
  apply filterMap_congr
  intro p hp
  simp [List.mk_mem_zipIdx_iff_getElem?.mp hp]

/-- a file of `size > 0` bytes cut into parts of `P` bytes: the last extent is not empty and at most `P` long -/
theorem last_part_bounds (size P : Nat) (hP : 0 < P) (hs : 0 < size) :
    let parts := size / P + (if size % P > 0 then 1 else 0)
    size - (parts - 1) * P ≤ P ∧ 0 < size - (parts - 1) * P := by
  intro parts
  have hdm := Nat.div_add_mod size P
  have hmod := Nat.mod_lt size hP
  dsimp only [parts]
  generalize size / P = q at hdm ⊢
  generalize size % P = r at hdm hmod ⊢
  subst hdm
  -- `P * q` is an atom for omega once every product is written that way
  split
  · rw [Nat.add_sub_cancel, Nat.mul_comm]; omega
  · cases q with
    | zero => omega
    | succ k => rw [Nat.add_zero, Nat.add_sub_cancel, Nat.mul_succ, Nat.mul_comm]; omega

theorem recTime_length (t : Nat) : (recTime t).length = 7 := by
  simp [recTime]

theorem fileRecs_sizes (f : FileRef) (joliet : Bool) (F : Nat) :
    (fileRecs f joliet F).map (·.size) = (fileRecs f joliet 0).map (·.size) := by
  unfold fileRecs
  dsimp only
  -- the size of a record looks at its identifier only, which is the same for every record of the file
  split <;> simp only [List.map_map, List.map_cons, List.map_nil, Function.comp_def, DirRec.size,
    apply_ite DirRec.ident, ite_self]

theorem fileRecs_single {f : FileRef} (joliet : Bool) (F : Nat) (h : f.size ≤ maxPart) :
    fileRecs f joliet F = [⟨f.rLBA + F, f.size, recTime f.mtime, 0, makeIdentifier f.name joliet⟩] := by
  unfold fileRecs
  exact if_neg (Nat.not_lt_of_le h)

/-- what every record of one file looks like: extent `i` starts `i` parts into the file's sector run; all extents but
    the last are full parts flagged multi-extent -/
theorem shape_of_mem_fileRecs {f : FileRef} {joliet : Bool} {F : Nat} {r : DirRec} (hr : r ∈ fileRecs f joliet F) :
    r.time = recTime f.mtime ∧ r.ident = makeIdentifier f.name joliet ∧
    ∃ i, r.extLoc = f.rLBA + i * sectors multiExtentPart + F ∧ i * multiExtentPart ≤ f.size ∧
      ((r.flags = 0 ∧ r.extLen ≤ maxPart) ∨ (r.flags = Gen.fs_dirFlagMultiExtent ∧ r.extLen = multiExtentPart)) := by
  by_cases hbig : f.size > maxPart
  · unfold fileRecs at hr
    dsimp only at hr
    rw [if_pos hbig, List.mem_map] at hr
    obtain ⟨i, hi, hr⟩ := hr
    rw [List.mem_range] at hi
    have htot := last_part_bounds f.size multiExtentPart (by decide) (by omega)
    generalize f.size / multiExtentPart + (if f.size % multiExtentPart > 0 then 1 else 0) = parts at hi htot hr
    have hle : i * multiExtentPart ≤ f.size :=
      Nat.le_trans (Nat.mul_le_mul_right _ (Nat.le_sub_one_of_lt hi)) (Nat.le_of_lt (Nat.lt_of_sub_pos htot.2))
    split at hr
    · rename_i hl
      rw [beq_iff_eq] at hl
      subst hl; subst hr
      exact ⟨rfl, rfl, _, rfl, hle, Or.inl ⟨rfl, Nat.le_trans htot.1 (by decide)⟩⟩
    · subst hr
      exact ⟨rfl, rfl, i, rfl, hle, Or.inr ⟨rfl, rfl⟩⟩
  · rw [fileRecs_single joliet F (Nat.le_of_not_gt hbig), List.mem_singleton] at hr
    subst hr
    exact ⟨rfl, rfl, 0, by simp, by simp, .inl ⟨rfl, Nat.le_of_not_gt hbig⟩⟩

theorem finalRecs_sizes {items : List DirItem} {rootLen : Nat} {joliet : Bool} {dirLBA filesLBA k : Nat} {it : DirItem} :
    (finalRecs items rootLen joliet dirLBA filesLBA k it).map (·.size) = (shapeRecs items it joliet).map (·.size) := by
  unfold finalRecs shapeRecs
  simp only [List.map_append, List.map_cons, List.map_nil, List.map_flatten, List.map_map, List.map_filterMap,
    Function.comp_def, fileRecs_sizes _ _ filesLBA, Option.map_map]
  -- what is left differs in locations and lengths only
  cases parentIdx items it rootLen <;> rfl

theorem parentIdx_lt {items : List DirItem} {it : DirItem} {rootLen p : Nat}
    (hp : parentIdx items it rootLen = some p) : p < items.length := by
  unfold parentIdx at hp
  split at hp
  · cases hp
  · exact (List.findIdx?_eq_some_iff_getElem.mp hp).1

/-- the four kinds of record of directory `k`: '.', '..' (the parent `p`, or `k` itself for the root), the records of
    its files, one record for each child directory -/
theorem forall_mem_finalRecs {items : List DirItem} {rootLen : Nat} {joliet : Bool} {dirLBA filesLBA k : Nat}
    {it : DirItem} {P : DirRec → Prop}
    (hdot : P ⟨dirLoc items joliet dirLBA k, dirLen items joliet k, recTime it.mtime, 2, [0]⟩)
    (hdotdot : ∀ p t, (p = k ∨ p < items.length) →
      P ⟨dirLoc items joliet dirLBA p, dirLen items joliet p, recTime t, 2, [1]⟩)
    (hfile : ∀ f ∈ it.files, ∀ r ∈ fileRecs f joliet filesLBA, P r)
    (hchild : ∀ j ∈ childrenIdx items it, ∀ c, items[j]? = some c →
      P ⟨dirLoc items joliet dirLBA j, dirLen items joliet j, recTime c.mtime, 2, makeIdentifier c.name joliet⟩) :
    ∀ r ∈ finalRecs items rootLen joliet dirLBA filesLBA k it, P r := by
  intro r hr
  unfold finalRecs at hr
  simp only [List.mem_append, List.mem_cons, List.mem_flatten, List.mem_map, mem_lookups] at hr
  rcases hr with ((rfl | rfl | h) | ⟨l, ⟨f, hf, rfl⟩, hr⟩) | ⟨j, hj, c, hc, rfl⟩
  · exact hdot
  · cases hp : parentIdx items it rootLen with
    | none => exact hdotdot k _ (Or.inl rfl)
    | some p => exact hdotdot p _ (Or.inr (parentIdx_lt hp))
  · cases h
  · exact hfile f hf r hr
  · exact hchild j hj c hc

theorem finalRecs_time {items : List DirItem} {rootLen : Nat} {joliet : Bool} {dirLBA filesLBA k : Nat} {it : DirItem} :
    ∀ r ∈ finalRecs items rootLen joliet dirLBA filesLBA k it, r.time.length = 7 :=
  forall_mem_finalRecs (P := fun r => r.time.length = 7) (recTime_length _) (fun _ _ _ => recTime_length _)
    (fun _ _ _ hr => (shape_of_mem_fileRecs hr).1 ▸ recTime_length _) (fun _ _ _ _ => recTime_length _)

end Ps3.Proof.Recs
