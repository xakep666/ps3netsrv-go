/-
  File contents. An overlay is applied by splicing the part of its data that meets `base` into `base`, so the result is
  known position by position; windows therefore commute with overlays, and every `Content.read` is a window of the one
  string `Content.all`. Last, one fact about the inode table of `World`.
-/
import Ps3.Model.World
import Ps3.Proof.Slice

namespace Ps3.Content
open Ps3.Proof.Slice

/-- the splice `applyOverlay` makes, for the hole `[lo, hi)` that the overlay at `ooff` cuts into the window at `start`:
    the patch, whose length is the `min`, fills the hole, and the hole lies inside the window -/
theorem overlay_bounds {start len ooff dlen lo hi : Nat} (h1 : start ≤ lo) (h2 : ooff ≤ lo) (hlh : lo ≤ hi)
    (h3 : hi ≤ start + len) (h4 : hi ≤ ooff + dlen) :
    hi - start = lo - start + min (hi - lo) (dlen - (lo - ooff)) ∧ hi - start ≤ len := by
  -- the hole is no longer than what the overlay has from `lo` on: measured from `ooff`, this is `hi - ooff ≤ dlen`
  have hfit : hi - lo ≤ dlen - (lo - ooff) := by
    apply Nat.le_sub_of_add_le
    rw [Nat.sub_add_sub_cancel hlh h2]
    exact Nat.sub_le_iff_le_add'.mpr h4
  refine ⟨?_, Nat.sub_le_iff_le_add'.mpr h3⟩
  rw [Nat.min_eq_left hfit, Nat.add_comm, Nat.sub_add_sub_cancel hlh h1]

/-- position `start + i` of the hole `[lo, hi)`, as an index into the patch cut from the overlay at `ooff` -/
theorem patch_index {start lo hi ooff i : Nat} (h1 : start ≤ lo) (h2 : ooff ≤ lo) (hlh : lo ≤ hi) (c1 : lo - start ≤ i)
    (c2 : i < hi - start) : i - (lo - start) < hi - lo ∧ lo - ooff + (i - (lo - start)) = start + i - ooff := by
  refine ⟨(Nat.sub_lt_iff_lt_add c1).mpr (Nat.sub_add_sub_cancel hlh h1 ▸ c2), ?_⟩
  have hi' : lo ≤ start + i := by rw [Nat.add_comm]; exact Nat.le_add_of_sub_le c1
  rw [← Nat.sub_add_sub_cancel hi' h2, Nat.add_comm, Nat.sub_sub_right _ h1, Nat.add_comm i]

theorem applyOverlay_length (start : Nat) (base : Bytes) (o : Overlay) :
    (applyOverlay start base o).length = base.length := by
  unfold applyOverlay
  dsimp only
  split
  · rename_i hlt
    have hb := overlay_bounds (Nat.le_max_left ..) (Nat.le_max_right ..) (Nat.le_of_lt hlt) (Nat.min_le_left ..)
      (Nat.min_le_right ..)
    exact length_splice (by rw [slice_length]; exact hb.1) hb.2
  · rfl

theorem foldl_applyOverlay_length (off : Nat) (os : List Overlay) (base : Bytes) :
    (os.foldl (applyOverlay off) base).length = base.length := by
  induction os generalizing base with
  | nil => rfl
  | cons o os ih => rw [List.foldl_cons, ih, applyOverlay_length]

theorem read_length (c : Content) (off n : Nat) : (c.read off n).length = min n (c.size - off) := by
  simp [read, foldl_applyOverlay_length]

theorem applyOverlay_getElem? (start : Nat) (base : Bytes) (o : Overlay) (i : Nat) :
    (applyOverlay start base o)[i]? =
      if i < base.length then
        (if o.off ≤ start + i ∧ start + i < o.off + o.data.length then o.data[start + i - o.off]? else base[i]?)
      else none := by
  by_cases hi : i < base.length
  · rw [if_pos hi]
    unfold applyOverlay
    dsimp only
    -- position `start + i` is in the hole `[max .., min ..)` iff it is under the overlay
    have hmem : (max start o.off - start ≤ i ∧ i < min (start + base.length) (o.off + o.data.length) - start) ↔
        (o.off ≤ start + i ∧ start + i < o.off + o.data.length) := by
      rw [Nat.lt_sub_iff_add_lt', Nat.sub_le_iff_le_add', Nat.max_le, Nat.lt_min]
      omega
    split
    · rename_i hlt
      have h1 := Nat.le_max_left start o.off
      have h2 := Nat.le_max_right start o.off
      have hb := overlay_bounds h1 h2 (Nat.le_of_lt hlt) (Nat.min_le_left ..) (Nat.min_le_right ..)
      rw [getElem?_splice i (by rw [slice_length]; exact hb.1) hb.2]
      by_cases hc : o.off ≤ start + i ∧ start + i < o.off + o.data.length
      · have hm := hmem.mpr hc
        have hx := patch_index h1 h2 (Nat.le_of_lt hlt) hm.1 hm.2
        rw [if_pos hc, if_pos hm, slice_getElem?, if_pos hx.1, hx.2]
      · rw [if_neg hc, if_neg (mt hmem.mp hc)]
    · rw [if_neg (by omega)]
  · rw [if_neg hi]
    exact List.getElem?_eq_none (by rw [applyOverlay_length]; exact Nat.le_of_not_lt hi)

theorem slice_applyOverlay (B : Bytes) (o : Overlay) (off n : Nat) :
    slice (applyOverlay 0 B o) off n = applyOverlay off (slice B off n) o := by
  apply List.ext_getElem?
  intro i
  simp only [slice_getElem?, applyOverlay_getElem?, slice_length, Nat.zero_add, Nat.lt_min, Nat.lt_sub_iff_add_lt']
  by_cases hi : i < n <;> by_cases h2 : off + i < B.length <;> simp [hi, h2]

theorem slice_foldl_applyOverlay (os : List Overlay) (B : Bytes) (off n : Nat) :
    slice (os.foldl (applyOverlay 0) B) off n = os.foldl (applyOverlay off) (slice B off n) := by
  induction os generalizing B with
  | nil => rfl
  | cons o os ih => rw [List.foldl_cons, List.foldl_cons, ih, slice_applyOverlay]

/-- `0 + k` is what `read 0` unfolds to in `Content.all` -/
theorem slice_pattern (seed size off n : Nat) :
    slice ((List.range size).map (fun k => patByte seed (0 + k))) off n =
      (List.range (min n (size - off))).map (fun k => patByte seed (off + k)) := by
  rw [slice, ← List.map_drop, List.range_eq_range', List.drop_range', List.range'_eq_map_range, List.map_map,
    ← List.map_take, List.take_range]
  simp [Function.comp_def]

theorem read_eq_slice_all (c : Content) (off n : Nat) : c.read off n = slice c.all off n := by
  unfold Content.all Content.read
  simp only [Nat.sub_zero, Nat.min_self]
  rw [slice_foldl_applyOverlay, slice_pattern]

theorem all_length (c : Content) : c.all.length = c.size := by
  simp [Content.all, Content.read_length]

theorem ofBytes_all (b : Bytes) : (Content.ofBytes b).all = b := by
  apply List.ext_getElem?
  intro i
  simp only [Content.all, Content.read, Content.ofBytes, List.foldl_cons, List.foldl_nil, applyOverlay_getElem?,
    List.length_map, List.length_range, Nat.sub_zero, Nat.min_self, Nat.zero_add, Nat.zero_le, true_and]
  by_cases hi : i < b.length <;> simp [hi]

end Ps3.Content

namespace Ps3.World

theorem inode?_setInode {w : World} {i : Nat} {f : Inode} (n : Inode) (h : w.inode? i = some f) :
    (w.setInode i n).inode? i = some n := by
  simp [World.setInode, World.inode?, (List.getElem?_eq_some_iff.mp h).1]

end Ps3.World
