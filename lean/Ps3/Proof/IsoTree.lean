/-
  The pieces of the end-to-end theorems of Props/C07b: the reader's `assemble` by record flags (`assemble_parts`,
  `assemble_fileRecs`), what the scan says of the directory list (`scan_sound`, `TreeFacts`), `file_bytes`, `fits_of_dirLens`.
-/
import Ps3.Spec.IsoTree
import Ps3.Props.C07
import Ps3.Props.C08b
namespace Ps3.Proof.IsoTree
open Ps3.Viso Ps3.Spec.Viso Ps3.Spec.IsoTree Ps3.Props.C08 Ps3.Props.C07 Ps3.Proof.BuildWF

def recsOfDir (L : Layout) (joliet : Bool) (k : Nat) (it : DirItem) : List DirRec :=
  finalRecs L.items L.rootLen joliet (dirBase L joliet) L.filesLBA k it

def fileRecsAll (L : Layout) (joliet : Bool) (it : DirItem) : List DirRec :=
  (it.files.map (fun f => fileRecs f joliet L.filesLBA)).flatten

def childRec (L : Layout) (joliet : Bool) (j : Nat) (c : DirItem) : DirRec :=
  ⟨dirLoc L.items joliet (dirBase L joliet) j, dirLen L.items joliet j, recTime c.mtime, 2, makeIdentifier c.name joliet⟩

def childRecs (L : Layout) (joliet : Bool) (it : DirItem) : List DirRec :=
  (childrenIdx L.items it).filterMap (fun j => L.items[j]?.map (childRec L joliet j))

theorem recsOfDir_drop (L : Layout) (joliet : Bool) (k : Nat) (it : DirItem) :
    (recsOfDir L joliet k it).drop 2 = fileRecsAll L joliet it ++ childRecs L joliet it :=
  rfl

theorem sectors_multiExtentPart : sectors multiExtentPart * sectorSize = multiExtentPart :=
  sectors_mul_eq_of_dvd multiExtentPart rfl

theorem assemble_dir {b : Bytes} {r : DirRec} {rest : List DirRec} {acc : Bytes} (h : r.flags = 2) :
    assemble b (r :: rest) acc = assemble b rest [] := by
  rw [assemble, isDirRec, h]; rfl

theorem assemble_multi {b : Bytes} {r : DirRec} {rest : List DirRec} {acc : Bytes} (h : r.flags = Gen.fs_dirFlagMultiExtent) :
    assemble b (r :: rest) acc = assemble b rest (acc ++ extentBytes b r) := by
  rw [assemble, isDirRec, isMulti, h]; rfl

theorem assemble_last {b : Bytes} {r : DirRec} {rest : List DirRec} {acc : Bytes} (h : r.flags = 0) :
    assemble b (r :: rest) acc = (r.ident, acc ++ extentBytes b r) :: assemble b rest [] := by
  rw [assemble, isDirRec, isMulti, h]; rfl

/-- the extents of a file larger than 4 GiB − 1, from part `s` on, continue the bytes collected so far; `P`, `parts`, `g`
    are variables: the proof needs only `hsec` and `hlo` of them, and the model's `g` meets `hg` up to where `+ filesLBA` stands -/
theorem assemble_parts (b : Bytes) (base P size : Nat) (tm id : Bytes) (parts : Nat) (g : Nat → DirRec)
    (hP : 0 < P)
    (hg : ∀ i, i < parts → g i =
      if i == parts - 1 then ⟨base + i * sectors P, size - i * P, tm, 0, id⟩
      else ⟨base + i * sectors P, P, tm, Gen.fs_dirFlagMultiExtent, id⟩)
    (hsec : sectors P * sectorSize = P)
    (hlo : (parts - 1) * P < size) (rest : List DirRec) :
    ∀ (n s : Nat) (acc : Bytes), s + n + 1 = parts →
      assemble b ((List.range' s (n + 1)).map g ++ rest) acc =
        (id, acc ++ slice b (base * sectorSize + s * P) (size - s * P)) :: assemble b rest [] := by
  intro n
  induction n with
  | zero =>
    intro s acc hs
    have hp : parts - 1 = s := by rw [← hs]; rfl
    -- part `s` is the last: its record is unflagged and closes the file
    rw [List.range'_one, List.map_singleton, List.singleton_append, hg s (hs ▸ Nat.lt_succ_self s), hp,
      beq_self_eq_true, if_pos rfl, assemble_last rfl, extentBytes, Nat.add_mul, Nat.mul_assoc, hsec]
  | succ n ih =>
    intro s acc hs
    obtain ⟨hlt, hnext, hs'⟩ : s < parts ∧ s < parts - 1 ∧ s + 1 + n + 1 = parts := by omega
    -- part `s` is a full part: at least one more follows
    have hle : P ≤ size - s * P := Nat.le_sub_of_add_le' (Nat.add_one_mul s P ▸
      Nat.le_trans (Nat.mul_le_mul_right P hnext) (Nat.le_of_lt hlo))
    rw [List.range'_succ, List.map_cons, List.cons_append, hg s hlt, beq_false_of_ne (Nat.ne_of_lt hnext),
      if_neg Bool.false_ne_true, assemble_multi rfl, extentBytes, Nat.add_mul, Nat.mul_assoc, hsec, ih (s + 1) _ hs']
    -- the bytes of part `s` and those of the parts after it are one slice
    rw [List.append_assoc, Nat.add_one_mul, Nat.sub_add_eq, ← Nat.add_assoc, ← slice_add, Nat.add_sub_cancel' hle]

/-- **one file, whatever its size**: the reader assembles from the record(s) written for it the identifier
    and exactly the `size` bytes that start at the file's first sector -/
theorem assemble_fileRecs (b : Bytes) (f : FileRef) (joliet : Bool) (F : Nat) (rest : List DirRec) :
    assemble b (fileRecs f joliet F ++ rest) [] =
      (makeIdentifier f.name joliet, slice b ((f.rLBA + F) * sectorSize) f.size) :: assemble b rest [] := by
  by_cases hbig : f.size > maxPart
  · have hlo := (Proof.Recs.last_part_bounds f.size multiExtentPart (by decide) (Nat.zero_lt_of_lt hbig)).2
    have hparts : f.size / multiExtentPart + (if f.size % multiExtentPart > 0 then 1 else 0) ≠ 0 :=
      Nat.ne_of_gt (Nat.add_pos_left (Nat.div_pos (Nat.le_trans (by decide) (Nat.le_of_lt hbig)) (by decide)) _)
    unfold fileRecs
    dsimp only
    rw [if_pos hbig]
    generalize f.size / multiExtentPart + (if f.size % multiExtentPart > 0 then 1 else 0) = parts at hlo hparts
    obtain ⟨n, rfl⟩ := Nat.exists_eq_succ_of_ne_zero hparts
    rw [List.range_eq_range']
    -- `g` is the model's function from part number to record, of the shape `hg` asks for up to the place of `+ F`
    refine (assemble_parts b (base := f.rLBA + F) (P := multiExtentPart) (size := f.size) (tm := recTime f.mtime)
      (id := makeIdentifier f.name joliet) (parts := n + 1) (g := _) (hP := by decide)
      (hg := fun i _ => by rw [Nat.add_right_comm]) (hsec := sectors_multiExtentPart) (hlo := Nat.lt_of_sub_pos hlo)
      (rest := rest) (n := n) (s := 0) (acc := []) (by omega)).trans ?_
    rw [Nat.zero_mul, Nat.add_zero, Nat.sub_zero, List.nil_append]
  · rw [Proof.Recs.fileRecs_single joliet F (Nat.le_of_not_gt hbig)]
    exact assemble_last rfl

theorem fileRecs_not_dir {f : FileRef} {joliet : Bool} {F : Nat} {r : DirRec} (hr : r ∈ fileRecs f joliet F) :
    isDirRec r = false := by
  obtain ⟨_, _, _, _, _, ⟨h, _⟩ | ⟨h, _⟩⟩ := Proof.Recs.shape_of_mem_fileRecs hr
  all_goals rw [isDirRec, h]; rfl

theorem assemble_dirs {b : Bytes} {rs : List DirRec} (h : ∀ r ∈ rs, r.flags = 2) (acc : Bytes) :
    assemble b rs acc = [] := by
  induction rs generalizing acc with
  | nil => rfl
  | cons r rest ih =>
    rw [assemble_dir (h r List.mem_cons_self)]
    exact ih (fun x hx => h x (List.mem_cons_of_mem _ hx)) []

theorem assemble_dir_entries (b : Bytes) (L : Layout) (joliet : Bool) (it : DirItem) :
    assemble b (fileRecsAll L joliet it ++ childRecs L joliet it) [] =
      it.files.map (fun f => (makeIdentifier f.name joliet, slice b ((f.rLBA + L.filesLBA) * sectorSize) f.size)) := by
  unfold fileRecsAll
  induction it.files with
  | nil =>
    refine assemble_dirs (fun r hr => ?_) []
    obtain ⟨j, _, c, _, rfl⟩ := Proof.Recs.mem_lookups.mp hr
    rfl
  | cons f rest ih => rw [List.map_cons, List.flatten_cons, List.append_assoc, assemble_fileRecs, ih, List.map_cons]

/-- every file record of a directory names an entry of that directory which `stat` says is that very file -/
def FilesStat (w : World) (it : DirItem) : Prop :=
  ∀ f ∈ it.files, ∃ q, w.stat (it.path ++ [f.name]) = some (q, .file f.ino)

/-- every recorded directory is reachable from the root through directory entries,
    and every file record was obtained by `stat` of an entry of its directory -/
theorem scan_sound (w : World) (root : Path) (fuel : Nat) :
    ∀ (stack : List Path) (acc : List DirItem) (s : Nat) (items : List DirItem) (e : Nat),
    scan w fuel stack acc s = some (items, e) →
      (∀ p ∈ stack, Reach w root p) → (∀ it ∈ acc, Reach w root it.path ∧ FilesStat w it ∧ it.name = it.path.getLast?.getD []) →
      ∀ it ∈ items, Reach w root it.path ∧ FilesStat w it ∧ it.name = it.path.getLast?.getD [] := by
  intro stack acc s items e h hstk hacc
  refine (Proof.Scan.scan_rule (fun stack acc _ => (∀ p ∈ stack, Reach w root p) ∧
    ∀ it ∈ acc, Reach w root it.path ∧ FilesStat w it ∧ it.name = it.path.getLast?.getD []) ?_
    h ⟨hstk, hacc⟩).2
  intro rest acc s path q mt files s' hst _ _ _ hstat ⟨hstk, hacc⟩
  rw [List.forall_mem_append, List.forall_mem_singleton] at hstk
  rw [List.forall_mem_append, List.forall_mem_append, List.forall_mem_map, List.forall_mem_singleton]
  exact ⟨⟨hstk.1, fun n hn => .child path q mt n hstk.2 hst (List.mem_filter.mp hn).1 (List.mem_filter.mp hn).2⟩,
    hacc, hstk.2, hstat, rfl⟩

theorem scan_head {w : World} {root : Path} {items : List DirItem} {e : Nat}
    (h : scan w scanFuel [root] [] 0 = some (items, e)) : ∃ it, items[0]? = some it ∧ it.path = root := by
  -- invariant: nothing is recorded yet and the root is the only pending directory, or the root is recorded first
  have hinv := Proof.Scan.scan_rule
    (fun stack acc _ => match acc with | [] => stack = [root] | it :: _ => it.path = root) ?_ h rfl
  · cases items with
    | nil => cases hinv
    | cons it _ => exact ⟨it, rfl, hinv⟩
  · intro rest acc s path q mt files s' _ _ _ _ _ hI
    cases acc with
    | nil => exact List.singleton_inj.mp (List.append_inj_right' (s₂ := []) hI rfl)
    | cons a t => exact hI

theorem reach_extends (w : World) (root p : Path) (h : Reach w root p) : ∃ rel, p = root ++ rel := by
  induction h with
  | root => exact ⟨[], by simp⟩
  | child p q mt n _ _ _ _ ih =>
    obtain ⟨rel, rfl⟩ := ih
    exact ⟨rel ++ [n], by simp⟩

/-- the tree half of what `layoutOf` establishes; the arithmetic half is `BuildWF.LayoutFacts` -/
structure TreeFacts (w : World) (root : Path) (L : Layout) : Prop where
  head : ∃ it, L.items[0]? = some it ∧ it.path = root
  rootLen : L.rootLen = root.length
  complete : ∀ p, Reach w root p → p ∈ L.items.map (·.path)
  itemOk : ∀ it ∈ L.items, ItemOk w L.items it
  sound : ∀ it ∈ L.items, Reach w root it.path ∧ FilesStat w it ∧ it.name = it.path.getLast?.getD []

theorem layoutOf_tree {w : World} {root : Path} {ps3 : Bool} {L : Layout} (h : layoutOf w root ps3 = some L) :
    TreeFacts w root L := by
  obtain ⟨fsec, _, hscan, hr, _⟩ := layoutOf_inv h
  obtain ⟨hc, hok⟩ := scan_complete w root _ fsec hscan
  exact ⟨scan_head hscan, hr, hc, hok,
    scan_sound w root scanFuel [root] [] 0 _ fsec hscan (fun p hp => List.mem_singleton.mp hp ▸ .root)
      (fun _ hit => nomatch hit)⟩

/-- **the extent of every file of every directory holds exactly the file's bytes** — empty files,
    sizes that are not a multiple of the sector size, files of more than 4 GiB alike -/
theorem file_bytes {w : World} {root : Path} {ps3 : Bool} (clk : Clock) (filler : Bytes) {L : Layout}
    (hL : layoutOf w root ps3 = some L) {it : DirItem} (hit : it ∈ L.items) {f : FileRef} (hf : f ∈ it.files) :
    slice (flat (imageOf L ps3 clk filler) (cfOf w)) ((f.rLBA + L.filesLBA) * sectorSize) f.size = (cfOf w f.ino).all := by
  by_cases h0 : f.size = 0
  · have hlen : (cfOf w f.ino).all.length = 0 := by rw [Content.all_length, (file_within_volume hL hit hf).1, h0]
    rw [h0, Proof.Slice.slice_zero_len, List.eq_nil_of_length_eq_zero hlen]
  · exact (extent_content _ _ (build_wf w root ps3 clk filler _ (by simp [build, hL]))
      ⟨f.ino, f.size, f.rLBA + L.filesLBA⟩ (Proof.Scan.mem_files (Proof.Scan.mem_allFiles hit hf) h0)).1

theorem fileRecs_loc_le {f : FileRef} {joliet : Bool} {F : Nat} {r : DirRec} (hr : r ∈ fileRecs f joliet F) :
    r.extLoc ≤ f.rLBA + sectors f.size + F := by
  obtain ⟨_, _, i, hloc, hi, _⟩ := Proof.Recs.shape_of_mem_fileRecs hr
  rw [hloc]
  have h2 : i * sectors multiExtentPart * sectorSize ≤ sectors f.size * sectorSize := by
    rw [Nat.mul_assoc, sectors_multiExtentPart]
    exact Nat.le_trans hi (sectors_mul_ge f.size)
  exact Nat.add_le_add_right (Nat.add_le_add_left (Nat.le_of_mul_le_mul_right h2 (by decide)) _) _

/-- every location and length of every record of one hierarchy fits its 32-bit field -/
def Fits (L : Layout) (joliet : Bool) : Prop :=
  ∀ k it, L.items[k]? = some it → ∀ r ∈ recsOfDir L joliet k it, r.extLoc < 2 ^ 32 ∧ r.extLen < 2 ^ 32

/-- the only thing about a generated image that could fail to fit a 32-bit field -/
def DirLensFit (L : Layout) (joliet : Bool) : Prop := ∀ j, j < L.items.length → dirLen L.items joliet j < 2 ^ 32

/-- **`Fits` holds for every generated image in which no single directory extent reaches 4 GiB**: sector
    numbers are below 2^31 (the tree would have been refused otherwise), file extent lengths are cut to fit -/
theorem fits_of_dirLens (w : World) (root : Path) (ps3 : Bool) (L : Layout) (hL : layoutOf w root ps3 = some L)
    (joliet : Bool) (h : DirLensFit L joliet) : Fits L joliet := by
  obtain ⟨hmax, hfiles, hlt, h32⟩ := volume_fits w root ps3 L hL
  have hvol : L.volumeSize < 2 ^ 32 := Nat.lt_trans hlt (Nat.lt_of_le_of_lt hmax h32)
  -- a directory lies before the file area, a file inside the volume
  have hdir : ∀ j, j < L.items.length →
      dirLoc L.items joliet (dirBase L joliet) j < 2 ^ 32 ∧ dirLen L.items joliet j < 2 ^ 32 := fun j hj => by
    refine ⟨Nat.lt_of_le_of_lt (Nat.le_trans ?_ hfiles) hvol, h j hj⟩
    have F := layoutOf_facts hL
    have hple : prefixSum (dirSectors L.items joliet) j ≤ (dirSectors L.items joliet).sum :=
      Nat.le_trans (Nat.le_add_right _ _) (Proof.Seg.take_sum_add_le
        (List.getElem?_eq_getElem (by rw [dirSectors, List.length_map]; exact hj)))
    unfold dirLoc dirBase
    cases joliet
    · rw [if_neg Bool.false_ne_true, F.files, F.joliet, Nat.add_comm L.isoLBA]
      exact Nat.le_trans (Nat.add_le_add_right hple _) (Nat.le_add_right _ _)
    · rw [if_pos rfl, F.files, Nat.add_comm L.jolietLBA]
      exact Nat.add_le_add_right hple _
  intro k it hk
  have hklt := (List.getElem?_eq_some_iff.mp hk).1
  exact Proof.Recs.forall_mem_finalRecs (P := fun r => r.extLoc < 2 ^ 32 ∧ r.extLen < 2 ^ 32) (hdir k hklt)
    (fun p _ hp => hdir p (hp.elim (· ▸ hklt) id))
    (fun f hf r hr =>
      ⟨Nat.lt_of_le_of_lt (Nat.le_trans (fileRecs_loc_le hr) (file_within_volume hL (List.mem_of_getElem? hk) hf).2) hvol,
        extent_len_fits f joliet _ r hr⟩)
    (fun j _ c hc => hdir j (List.getElem?_eq_some_iff.mp hc).1)

end Ps3.Proof.IsoTree
