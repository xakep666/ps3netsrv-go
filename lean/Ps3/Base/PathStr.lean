/-
  Go's Unix `path/filepath` on byte strings, in the component view.
  `Clean` is modelled as: split at '/', run the component stack, join — the same function Go
  computes with its lazy buffer (validated against the real `filepath.Clean` by the differential
  stream `c01p`).
-/
import Ps3.Base.Bytes

namespace Ps3.PathStr

def slash : UInt8 := 47
def dot : UInt8 := 46

/-- strings.Split(s, "/") -/
def splitSlash : Bytes → List Bytes
  | [] => [[]]
  | c :: rest =>
    if c == slash then [] :: splitSlash rest
    else match splitSlash rest with
      | [] => [[c]]
      | x :: xs => (c :: x) :: xs

def isDot (c : Bytes) : Bool := c == [dot]
def isDotDot (c : Bytes) : Bool := c == [dot, dot]

/-- a component that names a directory entry: non-empty, not "." or "..", no '/' inside -/
def normal (c : Bytes) : Bool := !c.isEmpty && !isDot c && !isDotDot c && !c.contains slash

/-- the stack machine of `Clean` for a rooted path: `..` pops (and is dropped at the root) -/
def cleanRooted : List Bytes → List Bytes → List Bytes
  | stack, [] => stack.reverse
  | stack, c :: rest =>
    if c.isEmpty || isDot c then cleanRooted stack rest
    else if isDotDot c then cleanRooted stack.tail rest
    else cleanRooted (c :: stack) rest

/-- … and for a relative path: leading `..` that cannot be resolved are kept -/
def cleanRel : List Bytes → List Bytes → List Bytes
  | stack, [] => stack.reverse
  | stack, c :: rest =>
    if c.isEmpty || isDot c then cleanRel stack rest
    else if isDotDot c then
      match stack with
      | top :: below => if isDotDot top then cleanRel (c :: stack) rest else cleanRel below rest
      | [] => cleanRel [c] rest
    else cleanRel (c :: stack) rest

def joinSlash : List Bytes → Bytes
  | [] => []
  | [c] => c
  | c :: rest => c ++ slash :: joinSlash rest

/-- filepath.Clean -/
def clean (s : Bytes) : Bytes :=
  match s with
  | [] => [dot]
  | c :: _ =>
    if c == slash then slash :: joinSlash (cleanRooted [] (splitSlash s))
    else
      let r := joinSlash (cleanRel [] (splitSlash s))
      if r.isEmpty then [dot] else r

/-- components of `filepath.Clean("/" + p)`: what pkg/server hands to the handler for every
    path-carrying command (as a component list; the string is "/" ++ joinSlash comps) -/
def cleanRequest (p : Bytes) : List Bytes := cleanRooted [] (splitSlash (slash :: p))

/-- filepath.Join(a, b) for two strings -/
def join2 (a b : Bytes) : Bytes :=
  if a.isEmpty then (if b.isEmpty then [] else clean b)
  else if b.isEmpty then clean a
  else clean (a ++ slash :: b)

/-- the string of a rooted component path -/
def renderRooted (comps : List Bytes) : Bytes := slash :: joinSlash comps

/-- `a` is `root` or lies below it, component-wise -/
def within (root p : List Bytes) : Bool := root.isPrefixOf p

/-- The invariant of the cleaning loop, for any property `P` of components: `cleanRooted` only ever
    pops the stack or pushes an input component that is none of "", ".", "..". -/
theorem cleanRooted_forall {P : Bytes → Prop} {comps stack : List Bytes} (hs : ∀ c ∈ stack, P c)
    (hc : ∀ c ∈ comps, ¬ (c.isEmpty || isDot c) → ¬ isDotDot c → P c) :
    ∀ c ∈ cleanRooted stack comps, P c := by
  fun_induction cleanRooted stack comps with
  | case1 stack => simpa only [List.mem_reverse] using hs
  | case2 stack x rest h ih => exact ih hs (List.forall_mem_cons.mp hc).2
  | case3 stack x rest h1 h2 ih => exact ih (fun c m => hs c (List.mem_of_mem_tail m)) (List.forall_mem_cons.mp hc).2
  | case4 stack x rest h1 h2 ih =>
    have ⟨hx, hc⟩ := List.forall_mem_cons.mp hc
    exact ih (List.forall_mem_cons.mpr ⟨hx h1 h2, hs⟩) hc

theorem splitSlash_no_slash (s : Bytes) : ∀ c ∈ splitSlash s, c.contains slash = false := by
  fun_induction splitSlash s with
  | case1 => simp
  | case2 c rest h ih => simpa using ih
  | case3 c rest h heq ih => simpa [eq_comm (a := slash)] using h
  | case4 c rest h x xs heq ih => rw [heq] at ih; simp_all [eq_comm (a := slash)]

end Ps3.PathStr
