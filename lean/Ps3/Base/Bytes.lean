/-
  Base definitions shared by Spec / Model / Props: byte strings, slices, fixed-width
  big/little-endian encoders and decoders, hex helpers for the driver.
  Core Lean only (no Mathlib) so that the driver executable links.
-/
namespace Ps3

abbrev Bytes := List UInt8

/-- `slice l off n` = `l[off : off+n]` clipped to the list (Go: `l[off:min(off+n,len)]` for `off ≤ len`). -/
def slice {α : Type} (l : List α) (off n : Nat) : List α := (l.drop off).take n

/-- `n` zero bytes. -/
def zeros (n : Nat) : Bytes := List.replicate n 0

/-- little-endian, `w` bytes, truncating (Go: `binary.LittleEndian.PutUintN(uintN(v))`). -/
def leN : Nat → Nat → Bytes
  | 0, _ => []
  | w+1, v => UInt8.ofNat (v % 256) :: leN w (v / 256)

/-- big-endian, `w` bytes, truncating. -/
def beN (w v : Nat) : Bytes := (leN w v).reverse

def fromLE : Bytes → Nat
  | [] => 0
  | b :: bs => b.toNat + 256 * fromLE bs

def fromBE (bs : Bytes) : Nat := fromLE bs.reverse

/-- ISO 9660 both-endian field: little-endian then big-endian copy. -/
def lsbmsb (w v : Nat) : Bytes := leN w v ++ beN w v

/-- two's complement of a Go signed integer in `w` bytes, as the natural the encoder writes. -/
def twos (w : Nat) (v : Int) : Nat := (v % (256 ^ w : Nat)).toNat

/-- reinterpret an unsigned `w`-byte value as Go's signed integer of that width. -/
def toSigned (w : Nat) (v : Nat) : Int :=
  let m := 256 ^ w
  let v := v % m
  if v < m / 2 then (v : Int) else (v : Int) - m

@[simp] theorem leN_length (w v : Nat) : (leN w v).length = w := by
  induction w generalizing v with
  | zero => rfl
  | succ w ih => simp [leN, ih]

@[simp] theorem beN_length (w v : Nat) : (beN w v).length = w := by simp [beN]

@[simp] theorem lsbmsb_length (w v : Nat) : (lsbmsb w v).length = 2 * w := by
  simp [lsbmsb]; omega

@[simp] theorem zeros_length (n : Nat) : (zeros n).length = n := by simp [zeros]

theorem fromLE_leN (w v : Nat) : fromLE (leN w v) = v % 256 ^ w := by
  induction w generalizing v with
  | zero => simp [leN, fromLE, Nat.mod_one]
  | succ w ih =>
    simp only [leN, fromLE, ih]
    have h : (UInt8.ofNat (v % 256)).toNat = v % 256 := by
      simp [UInt8.toNat_ofNat']
    rw [h, Nat.pow_succ, Nat.mul_comm (256 ^ w) 256, Nat.mod_mul]

theorem fromBE_beN (w v : Nat) : fromBE (beN w v) = v % 256 ^ w := by
  simp [fromBE, beN, fromLE_leN]

theorem fromBE_beN_lt (w v : Nat) (h : v < 256 ^ w) : fromBE (beN w v) = v := by
  rw [fromBE_beN, Nat.mod_eq_of_lt h]

theorem fromLE_append (x y : Bytes) : fromLE (x ++ y) = fromLE x + 256 ^ x.length * fromLE y := by
  induction x with
  | nil => simp [fromLE]
  | cons a x ih =>
    simp only [List.cons_append, fromLE, ih, List.length_cons, Nat.pow_succ]
    grind

theorem fromBE_append (a b : Bytes) : fromBE (a ++ b) = fromBE a * 256 ^ b.length + fromBE b := by
  rw [fromBE, List.reverse_append, fromLE_append, List.length_reverse, Nat.add_comm, Nat.mul_comm]; rfl

theorem fromBE_cons (a : UInt8) (as : Bytes) :
    fromBE (a :: as) = a.toNat * 256 ^ as.length + fromBE as := by
  simpa [fromBE, fromLE] using fromBE_append [a] as

theorem fromLE_lt (x : Bytes) : fromLE x < 256 ^ x.length := by
  induction x with
  | nil => simp [fromLE]
  | cons a x ih =>
    simp only [fromLE, List.length_cons, Nat.pow_succ]
    have : a.toNat < 256 := a.toNat_lt
    omega

theorem fromBE_lt (x : Bytes) : fromBE x < 256 ^ x.length := by
  simpa [fromBE] using fromLE_lt x.reverse

theorem fromBE_zeros (l : Nat) : fromBE (zeros l) = 0 := by
  induction l with
  | zero => rfl
  | succ l ih => rw [zeros, List.replicate_succ, fromBE_cons, ← zeros, ih]; simp

theorem fromBE_ffs (l : Nat) : fromBE (List.replicate l (0xff : UInt8)) = 256 ^ l - 1 := by
  induction l with
  | zero => rfl
  | succ l ih =>
    rw [List.replicate_succ, fromBE_cons, ih, List.length_replicate, Nat.pow_succ]
    have : 0 < 256 ^ l := Nat.pow_pos (by decide)
    show 255 * _ + _ = _
    omega

theorem slice_length {α : Type} (l : List α) (off n : Nat) :
    (slice l off n).length = min n (l.length - off) := by
  simp [slice]

theorem slice_append_left {α : Type} {a b : List α} {off n : Nat} (h : off + n ≤ a.length) :
    slice (a ++ b) off n = slice a off n := by
  unfold slice
  rw [List.drop_append_of_le_length (by omega)]
  rw [List.take_append_of_le_length (by simp; omega)]

theorem slice_append_right {α : Type} {a b : List α} {off n : Nat} (h : a.length ≤ off) :
    slice (a ++ b) off n = slice b (off - a.length) n := by
  unfold slice
  rw [List.drop_append]
  simp [List.drop_eq_nil_of_le h]

theorem slice_prefix {α : Type} (a b : List α) (n : Nat) (h : a.length = n) : slice (a ++ b) 0 n = a := by
  subst h; simp [slice]

theorem slice_zero_all {α : Type} {l : List α} {n : Nat} (h : l.length ≤ n) : slice l 0 n = l := by
  simp [slice, List.take_of_length_le h]

theorem slice_add {α : Type} (l : List α) (off n m : Nat) :
    slice l off (n + m) = slice l off n ++ slice l (off + n) m := by
  unfold slice
  rw [List.take_add, List.drop_drop]

/-! ### hex (driver only) -/

def hexDigit (n : Nat) : Char :=
  if n < 10 then Char.ofNat (48 + n) else Char.ofNat (87 + n)

def toHex (bs : Bytes) : String :=
  String.ofList (bs.foldr (fun b acc => hexDigit (b.toNat / 16) :: hexDigit (b.toNat % 16) :: acc) [])

def hexVal (c : Char) : Option Nat :=
  if '0' ≤ c ∧ c ≤ '9' then some (c.toNat - 48)
  else if 'a' ≤ c ∧ c ≤ 'f' then some (c.toNat - 87)
  else if 'A' ≤ c ∧ c ≤ 'F' then some (c.toNat - 55)
  else none

def fromHexChars : List Char → Option Bytes
  | [] => some []
  | [_] => none
  | a :: b :: rest => do
    let x ← hexVal a
    let y ← hexVal b
    let r ← fromHexChars rest
    pure (UInt8.ofNat (x * 16 + y) :: r)

/-- "-" denotes the empty byte string on the wire of the line protocol. -/
def fromHex (s : String) : Option Bytes :=
  if s == "-" then some [] else fromHexChars s.toList

def hexOrDash (bs : Bytes) : String := if bs.isEmpty then "-" else toHex bs

/-- FNV-1a 64 over a byte list (same function in the Go harness). -/
def fnv1a (bs : Bytes) : UInt64 :=
  bs.foldl (fun h b => (h ^^^ b.toUInt64) * 0x100000001b3) 0xcbf29ce484222325

def strBytes (s : String) : Bytes := s.toUTF8.toList

end Ps3
