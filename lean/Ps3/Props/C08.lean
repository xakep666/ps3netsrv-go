/-
  C08 — Generated ISO is a structurally valid ISO 9660 + Joliet (+PS3) volume.
-/
import Ps3.Model.Viso
import Ps3.Proof.Seg
namespace Ps3.Props.C08
open Ps3.Viso

/-- The image size is a whole number of 2048-byte sectors: exactly the layout's volume size. -/
theorem size_is_sectors (w : World) (root : Path) (ps3 : Bool) (clk : Clock) (fl : Bytes) (img : Image)
    (h : build w root ps3 clk fl = some img) :
    ∃ L, layoutOf w root ps3 = some L ∧ img.totalSize = L.volSectors * 2048 ∧ img.totalSize % 2048 = 0 ∧
      img.padAreaStart + img.padAreaSize = img.totalSize := by
  obtain ⟨L, hL, rfl⟩ := Option.map_eq_some_iff.mp h
  obtain ⟨_, _, _, _, _, _, _, _, _, _, _, (hv : L.volSectors = L.volumeSize + L.padSectors)⟩ := layoutOf_inv hL
  exact ⟨L, hL, rfl, Nat.mul_mod_left _ _, by simp only [imageOf, hv, Nat.add_mul]⟩

/-- Padding rule: the volume ends on a 0x20-sector granule and carries at least one full granule of
    zero padding (and less than two). -/
theorem pad_rule (v : Nat) : (v + padSectorsFor v) % 32 = 0 ∧ 32 ≤ padSectorsFor v ∧ padSectorsFor v < 64 := by
  unfold padSectorsFor
  rw [show Gen.fs_basePadSectors = 32 from rfl]
  split <;> omega

/-- Every both-endian field decodes to the same value both ways, for every value and width. -/
theorem both_endian_agree (w v : Nat) : fromLE ((lsbmsb w v).take w) = fromBE ((lsbmsb w v).drop w) := by
  simp [lsbmsb, fromLE_leN, fromBE_beN]

theorem parityByte_length (n : Nat) : (if n % 2 > 0 then [(0 : UInt8)] else []).length = n % 2 := by
  rcases Nat.mod_two_eq_zero_or_one n with h | h <;> rw [h] <;> rfl

/-- A directory record is exactly as long as its size says … -/
theorem record_length (r : DirRec) (ht : r.time.length = 7) : r.encode.length = r.size := by
  unfold DirRec.encode DirRec.size
  simp only [List.length_append, List.length_cons, List.length_nil, lsbmsb_length, ht, parityByte_length]

/-- … its first byte is that size and the identifier-length byte is the identifier's length,
    whenever the identifier fits (≤ 221 bytes, which `makeIdentifier` guarantees below). -/
theorem record_len_byte (r : DirRec) (h : r.ident.length ≤ 221) :
    r.encode.head? = some (UInt8.ofNat r.size) ∧ r.size ≤ 255 ∧ (UInt8.ofNat r.size).toNat = r.size := by
  have hs : r.size ≤ 255 :=
    Nat.add_le_add (Nat.add_le_add_left h 33) (Nat.le_of_lt_succ (Nat.mod_lt _ (by decide)))
  exact ⟨rfl, hs, UInt8.toNat_ofNat_of_lt' (Nat.lt_succ_of_le hs)⟩

theorem ptEntry_encode_length (e : PtEntry) (big : Bool) :
    (e.encode big).length = 8 + e.ident.length + e.ident.length % 2 := by
  unfold PtEntry.encode
  cases big <;> simp only [List.length_append, List.length_cons, List.length_nil, beN_length, leN_length, parityByte_length,
    if_true, Bool.false_eq_true, if_false]

/-- identifiers are cut so that a record always fits its one-byte length:
    at most 221 bytes in the primary hierarchy, at most 220 (110 UCS-2 characters) in Joliet -/
theorem identifier_fits (name : Bytes) (joliet : Bool) : (makeIdentifier name joliet).length ≤ 221 := by
  cases joliet
  · simp only [makeIdentifier, Bool.false_eq_true, if_false, mangleD1, List.length_map, List.length_take]
    exact Nat.min_le_left _ _
  · simp only [makeIdentifier, if_true, utf16be, mangleD1, Proof.Seg.length_flatten_map (fun c : UInt8 => [0, c]) 2 (fun _ => rfl),
      List.length_map, List.length_take]
    exact Nat.le_trans (Nat.mul_le_mul_left 2 (Nat.min_le_left _ _)) (by decide)

theorem sector_div (q m : Nat) (h : m < 2048) : (2048 * q + m) / 2048 = q := by
  rw [Nat.mul_add_div (by decide), Nat.div_eq_of_lt h, Nat.add_zero]

/-- `recGap` at byte `m` of sector `q`: the rest of the sector if the record does not fit into it, else nothing -/
theorem recGap_spec (pos : Nat) (r : DirRec) : ∃ q m, m < 2048 ∧ pos = 2048 * q + m ∧
    ((2048 - m < r.size ∧ recGap pos r = 2048 - m) ∨ (r.size ≤ 2048 - m ∧ recGap pos r = 0)) := by
  refine ⟨pos / 2048, pos % 2048, Nat.mod_lt pos (by decide), (Nat.div_add_mod pos 2048).symm, ?_⟩
  unfold recGap
  rw [sectorSize_eq]
  dsimp only
  split
  · exact Or.inl ⟨‹_›, rfl⟩
  · exact Or.inr ⟨Nat.le_of_not_gt ‹_›, rfl⟩

/-- No directory record crosses a sector boundary: the gap inserted before a record moves it to the
    next sector whenever it would not fit into the rest of the current one. -/
theorem no_straddle (pos : Nat) (r : DirRec) (hs : 0 < r.size) (hle : r.size ≤ 2048) :
    (pos + recGap pos r) / 2048 = (pos + recGap pos r + r.size - 1) / 2048 := by
  have hsz : r.size - 1 < r.size := Nat.sub_lt hs Nat.one_pos
  obtain ⟨q, m, hm, rfl, ⟨h, hg⟩ | ⟨h, hg⟩⟩ := recGap_spec pos r <;> rw [hg]
  · -- the record starts sector `q + 1` and is no longer than a sector
    rw [Nat.add_assoc (2048 * q), Nat.add_sub_cancel' (Nat.le_of_lt hm), ← Nat.mul_succ, Nat.add_sub_assoc hs,
      Nat.mul_div_cancel_left _ (by decide), sector_div _ _ (Nat.lt_of_lt_of_le hsz hle)]
  · -- the record ends inside sector `q`
    rw [Nat.add_zero, Nat.add_sub_assoc hs, Nat.add_assoc, sector_div _ _ hm, sector_div _ _ (Nat.lt_of_lt_of_le
      (Nat.add_lt_add_left hsz m) (Nat.add_le_of_le_sub' (Nat.le_of_lt hm) h))]

/-- the gap itself is only ever the unused rest of a sector -/
theorem gap_is_sector_rest (pos : Nat) (r : DirRec) : recGap pos r = 0 ∨ (pos + recGap pos r) % 2048 = 0 := by
  obtain ⟨q, m, hm, rfl, ⟨_, hg⟩ | ⟨_, hg⟩⟩ := recGap_spec pos r <;> rw [hg]
  · right
    rw [Nat.add_assoc, Nat.add_sub_cancel' (Nat.le_of_lt hm), ← Nat.mul_succ, Nat.mul_mod_right]
  · exact Or.inl rfl

/-- every directory occupies a whole number of sectors -/
theorem dir_extent_sectors (rs : List DirRec) : (encodeRecs rs).length % 2048 = 0 := by
  simp only [encodeRecs, List.length_append, zeros_length, Nat.add_sub_cancel' (sectors_mul_ge _)]
  exact Nat.mul_mod_left _ _

/-- L and M path table entries are the same entry in opposite byte orders: identical length byte,
    identifier and padding; location and parent number decode to the same values. -/
theorem path_table_entries_agree (e : PtEntry) :
    ∃ hd tl : Bytes,
      e.encode false = hd ++ (leN 4 e.loc ++ (leN 2 e.parent ++ tl)) ∧
      e.encode true = hd ++ (beN 4 e.loc ++ (beN 2 e.parent ++ tl)) ∧
      fromLE (leN 4 e.loc) = fromBE (beN 4 e.loc) ∧ fromLE (leN 2 e.parent) = fromBE (beN 2 e.parent) := by
  exact ⟨[UInt8.ofNat e.ident.length, 0], e.ident ++ (if e.ident.length % 2 > 0 then [0] else []),
    by simp [PtEntry.encode], by simp [PtEntry.encode], by rw [fromLE_leN, fromBE_beN], by rw [fromLE_leN, fromBE_beN]⟩

/-- The descriptors are in place: type 1 / 2 / 255, "CD001", version 1. -/
theorem descriptor_headers (L : Layout) (clk : Clock) :
    (pvdOf L clk).take 7 = [1, 67, 68, 48, 48, 49, 1] ∧ (svdOf L clk).take 7 = [2, 67, 68, 48, 48, 49, 1] ∧
    terminatorDescriptor.take 7 = [255, 67, 68, 48, 48, 49, 1] := by
  exact ⟨by simp [pvdOf, volumeDescriptor, descHeader, Gen.fs_standardIdentifierBytes],
    by simp [svdOf, volumeDescriptor, descHeader, Gen.fs_standardIdentifierBytes],
    by simp [terminatorDescriptor, Gen.fs_standardIdentifierBytes]⟩

/-- PS3 sector 1 carries "PlayStation3" and the product code XXXX-YYYYY derived from TITLE_ID. -/
theorem ps3_info_head (L : Layout) :
    ∃ rest : Bytes, infoHead L = Gen.fs_consoleID ++ [32, 32, 32, 32] ++ (L.gameCode.take 4 ++ [45] ++ L.gameCode.drop 4) ++ rest ∧
    Gen.fs_consoleID = [80, 108, 97, 121, 83, 116, 97, 116, 105, 111, 110, 51] := by
  refine ⟨List.replicate (32 - (L.gameCode.take 4 ++ [45] ++ L.gameCode.drop 4).length) 32 ++ zeros 16, ?_, rfl⟩
  have hc : Gen.fs_consoleID.length = 12 := rfl
  simp [infoHead, padTo, hc]

end Ps3.Props.C08
