/-
  C10 — On-the-fly decryption equals the reference plaintext for any access pattern.
  The block-level cipher is a parameter `D : sector → 2048 bytes → 2048 bytes`; the driver
  instantiates it with AES-128-CBC (key derived from the disc key, IV = sector number).
-/
import Ps3.Proof.Crypt
import Ps3.Proof.Content
import Ps3.Proof.Seg
namespace Ps3.Props.C10
open Ps3.Crypt Ps3.Proof.Crypt Ps3.Proof.Seg

/-- Reference plaintext, sector by sector: stored bytes outside the gaps, `D` of the stored sector
    inside a gap (for complete sectors). -/
theorem sector_rule (D : Nat → Bytes → Bytes) (gs : List Region) (s : Nat) (stored : Bytes) :
    (inGap gs s = false → plainSector D gs s stored = stored) ∧
    (inGap gs s = true → stored.length = sectorSize → plainSector D gs s stored = D s stored) ∧
    (stored.length ≠ sectorSize → plainSector D gs s stored = stored) :=
  ⟨fun h => by simp [plainSector, h], fun h hl => by simp [plainSector, h, hl], fun hl => by simp [plainSector, hl]⟩

/-- **For every key (every `D`), every region table, every image content and every read —
    any offset, any length, aligned to sectors or not — the view returns exactly the slice of the
    reference plaintext.** Hence any sequence of Read/Seek/ReadAt with any cut of the underlying
    reads observes the same bytes: they are slices of one fixed string. -/
theorem view_eq_plain {D : Nat → Bytes → Bytes} {rd : Nat → Nat → Bytes} {size : Nat} (E : Env D rd size)
    (gs : List Region) (off n : Nat) :
    readDec D gs rd size 0 off n = slice (plainAll D gs rd size) off n :=
  readDec_eq_slice E gs off n

theorem plain_size {D : Nat → Bytes → Bytes} {rd : Nat → Nat → Bytes} {size : Nat} (E : Env D rd size) (gs : List Region) :
    (plainAll D gs rd size).length = size := plainAll_length E gs

/-- a stored file is such a byte source (so the theorem applies to every file content) -/
theorem file_env (D : Nat → Bytes → Bytes) (hD : ∀ s x, (D s x).length = x.length) (c : Content) :
    Env D (fun off n => c.read off n) c.size :=
  ⟨fun off n => Content.read_length c off n, hD⟩

theorem chunked {D : Nat → Bytes → Bytes} {rd : Nat → Nat → Bytes} {size : Nat} (E : Env D rd size)
    (gs : List Region) (off a b : Nat) :
    readDec D gs rd size 0 off (a + b) = readDec D gs rd size 0 off a ++ readDec D gs rd size 0 (off + a) b := by
  simp only [view_eq_plain E, slice_add]

/-- The encrypted sectors are exactly the sectors strictly between consecutive plain regions: after
    the LAST sector of one (its `stop`, inclusive) and before the first of the next. -/
theorem gaps_spec (a b : Region) (rest : List Region) (s : Nat) :
    inGap (gaps (a :: b :: rest)) s = ((a.stop < s && s < b.start) || inGap (gaps (b :: rest)) s) := by
  simp [gaps, inGap, Nat.succ_le_iff]

/-- in particular the last sector of a plain region is plain, whatever follows it in the table
    (it used to be decrypted as if it belonged to the next encrypted region) -/
theorem last_plain_sector_is_plain (a b : Region) : inGap (gaps [a, b]) a.stop = false := by
  simp [gaps, inGap]
  omega

/-- Region tables are accepted exactly when they pass the documented sanity checks … -/
theorem accept_iff_valid (rd : Nat → Nat → Bytes) (regs : List Region) (h : decodeTable rd = some regs) :
    (parseTable rd = some regs ↔ validRegs regs = true) ∧ (parseTable rd = none ↔ validRegs regs = false) := by
  cases hv : validRegs regs <;> simp [parseTable, h, hv]

/-- … which are: at least two and at most 255 regions, the first starting at sector 0, no region
    ending before it starts, and every region starting after the last sector of the previous one. -/
theorem valid_spec (r0 : Region) (rest : List Region) :
    validRegs (r0 :: rest) = true ↔
      (1 ≤ rest.length ∧ rest.length + 1 ≤ 255 ∧ r0.start = 0 ∧ bordersOk (r0 :: rest) none = true) := by
  simp [validRegs, show maxRegions = 255 from rfl, and_assoc]

/-- the border check one region at a time, for the first region (`prev = none`) and the later ones alike;
    the induction over a valid table (`inPlain_eq_not_inGap`) steps with it -/
theorem bordersOk_cons {r : Region} {rest : List Region} {prev : Option Nat} :
    bordersOk (r :: rest) prev = true ↔
      (r.start ≤ r.stop ∧ (∀ e, prev = some e → e < r.start) ∧ bordersOk rest (some r.stop) = true) := by
  cases prev <;> simp [bordersOk, Nat.not_lt, Nat.not_le]

theorem borders_spec (r : Region) (rest : List Region) (prevEnd : Nat) :
    bordersOk (r :: rest) (some prevEnd) = true ↔
      (r.start ≤ r.stop ∧ prevEnd < r.start ∧ bordersOk rest (some r.stop) = true) := by
  simp [bordersOk_cons]

/-- sector `s` lies in one of the plain regions (both ends inclusive) -/
def inPlain (regs : List Region) (s : Nat) : Bool := regs.any (fun r => r.start ≤ s && s ≤ r.stop)

theorem inPlain_cons (r : Region) (rest : List Region) (s : Nat) :
    inPlain (r :: rest) s = ((r.start ≤ s && s ≤ r.stop) || inPlain rest s) := rfl

/-- `plain_xor_gap` without the lower bound on `s`: before its first region a table has neither plain sectors
    nor gaps. The second part is what the induction needs to know of the gaps of the tail. -/
theorem inPlain_eq_not_inGap {r : Region} {rest : List Region} {prev : Option Nat}
    (h : bordersOk (r :: rest) prev = true) {s : Nat} (hhi : s ≤ ((r :: rest).getLast (by simp)).stop) :
    inPlain (r :: rest) s = (decide (r.start ≤ s) && !inGap (gaps (r :: rest)) s) ∧
      (inGap (gaps (r :: rest)) s = true → r.start ≤ s) := by
  induction rest generalizing r prev with
  | nil => simpa [inPlain, gaps, inGap] using fun _ => hhi
  | cons b rest ih =>
    -- r.start ≤ r.stop < b.start, and all of the tail's regions and gaps lie from b.start on
    obtain ⟨h1, -, h3⟩ := bordersOk_cons.mp h
    have h2 := (bordersOk_cons.mp h3).2.1 _ rfl
    obtain ⟨ip, ig⟩ := ih h3 (by simpa [List.getLast_cons] using hhi)
    rw [inPlain_cons, gaps_spec, ip, Bool.eq_iff_iff]
    cases hG : inGap (gaps (b :: rest)) s
    · simp; omega
    · have := ig hG
      simp; omega

/-- **A valid table partitions the disc**: every sector from the first region's start up to the last
    region's last sector lies either in a plain region or in the gap between two of them — never in
    both, never in neither. So "stored bytes in plain regions, decrypted sectors in encrypted regions"
    assigns exactly one treatment to every sector of the image. -/
theorem plain_xor_gap (r : Region) (rest : List Region) (prev : Option Nat)
    (h : bordersOk (r :: rest) prev = true) (s : Nat) (hlo : r.start ≤ s)
    (hhi : s ≤ ((r :: rest).getLast (by simp)).stop) :
    inPlain (r :: rest) s = !inGap (gaps (r :: rest)) s := by
  simpa [hlo] using (inPlain_eq_not_inGap h hhi).1

/-- a table that is too short for the count it announces, or announces more regions than fit a
    sector, is rejected — whatever follows -/
theorem short_table_rejected (rd : Nat → Nat → Bytes) (h : decodeTable rd = none) : parseTable rd = none := by
  simp [parseTable, h]

theorem huge_count_rejected (rd : Nat → Nat → Bytes) (h8 : (rd 0 8).length = 8)
    (hc : fromBE ((rd 0 8).take 4) > 255) : parseTable rd = none := by
  have : maxRegions = 255 := rfl
  simp [parseTable, decodeTable, h8, this, hc]

/-- Header clearing (the offline decrypt tool): exactly the first `h` bytes read as zero, nothing else changes. -/
theorem clear_header (D : Nat → Bytes → Bytes) (gs : List Region) (rd : Nat → Nat → Bytes) (size h off n : Nat) :
    readDec D gs rd size h off n =
      (if off < h then
        zeros (min (h - off) (readDec D gs rd size 0 off n).length) ++ (readDec D gs rd size 0 off n).drop (h - off)
       else readDec D gs rd size 0 off n) := by
  unfold readDec
  by_cases hl : (min n (size - off) == 0) = true
  · simp [hl, zeros]
  · simp [hl]

/-- IV rule and key-derivation constants (psdevwiki: Bluray disc encryption) -/
theorem constants :
    Gen.fs_keyData1 = [0x38, 0x0b, 0xcf, 0x0b, 0x53, 0x45, 0x5b, 0x3c, 0x78, 0x17, 0xab, 0x4f, 0xa3, 0xba, 0x90, 0xed] ∧
    Gen.fs_ivData1 = [0x69, 0x47, 0x47, 0x72, 0xaf, 0x6f, 0xda, 0xb3, 0x42, 0x74, 0x3a, 0xef, 0xaa, 0x18, 0x62, 0x87] ∧
    Gen.fs_encryptionKeySize = 16 ∧ sectorSize = 2048 :=
  ⟨rfl, rfl, rfl, rfl⟩

/-- The server keeps sector numbers as int32 and clamps table borders to 2^31−1 (`regionBorder`). -/
def clampBorder (v : Nat) : Nat := min v (2 ^ 31 - 1)
def clampGaps (gs : List Region) : List Region := gs.map (fun g => ⟨clampBorder g.start, clampBorder g.stop⟩)

/-- Clamping is unobservable: for every sector a file can have (below 2^31−1, i.e. files under 4 TiB)
    membership in the encrypted gaps is the same with clamped and with exact borders. -/
theorem clamp_unobservable (gs : List Region) (s : Nat) (hs : s < 2 ^ 31 - 1) :
    inGap (clampGaps gs) s = inGap gs s := by
  -- a border and its clamp compare alike with every `s` below the clamp
  have h : ∀ v, (clampBorder v ≤ s ↔ v ≤ s) ∧ (s < clampBorder v ↔ s < v) := fun v => by unfold clampBorder; omega
  simp only [inGap, clampGaps, List.any_map, Function.comp_def, h]

/-- non-vacuity: a valid three-region table and its two gaps -/
example : validRegs [⟨0, 2⟩, ⟨5, 7⟩, ⟨8, 9⟩] = true ∧ gaps [⟨0, 2⟩, ⟨5, 7⟩, ⟨8, 9⟩] = [⟨3, 5⟩, ⟨8, 8⟩] ∧
    inGap (gaps [⟨0, 2⟩, ⟨5, 7⟩, ⟨8, 9⟩]) 4 = true ∧ inGap (gaps [⟨0, 2⟩, ⟨5, 7⟩, ⟨8, 9⟩]) 2 = false ∧
    inGap (gaps [⟨0, 2⟩, ⟨5, 7⟩, ⟨8, 9⟩]) 7 = false ∧
    validRegs [⟨0, 2⟩, ⟨2, 9⟩] = false ∧ validRegs [⟨0, 0⟩, ⟨1, 1⟩] = true := by
  decide

/-! ### the table as written by a dumper is the table read -/

/-- the region table as the disc format writes it: count, 4 pad bytes, big-endian (first, end) pairs -/
def encodeTable (regs : List Region) : Bytes :=
  beN 4 regs.length ++ zeros 4 ++ (regs.map (fun r => beN 4 r.start ++ beN 4 r.stop)).flatten

def fileRd (b : Bytes) : Nat → Nat → Bytes := fun off n => slice b off n

/-- **decode ∘ encode = id for the region table**: a table of up to 255 regions with 32-bit borders,
    followed by any image content, is read back exactly -/
theorem table_roundtrip (regs : List Region) (hn : regs.length ≤ maxRegions)
    (hb : ∀ r ∈ regs, r.start < 2 ^ 32 ∧ r.stop < 2 ^ 32) (rest : Bytes) :
    decodeTable (fileRd (encodeTable regs ++ rest)) = some regs := by
  have hmax : maxRegions = 255 := rfl
  -- the file is the 8-byte header, then the pairs `P`, then `rest`
  obtain ⟨P, hP, hE⟩ : ∃ P, P = (regs.map fun r => beN 4 r.start ++ beN 4 r.stop).flatten ∧
      encodeTable regs ++ rest = (beN 4 regs.length ++ zeros 4) ++ (P ++ rest) :=
    ⟨_, rfl, by simp only [encodeTable, List.append_assoc]⟩
  have hl : P.length = 8 * regs.length := hP ▸ length_flatten_map _ 8 (fun _ => by simp) regs
  have h8 : fileRd (encodeTable regs ++ rest) 0 8 = beN 4 regs.length ++ zeros 4 := by
    rw [hE]; exact slice_prefix _ _ 8 (by simp)
  have hraw : fileRd (encodeTable regs ++ rest) 8 (8 * regs.length) = P := by
    rw [hE, fileRd, slice_append_right (by simp)]; simpa using slice_prefix P rest _ hl
  -- the three guards of `decodeTable` pass: 8 header bytes, a count within bounds, `8 * count` bytes of pairs
  simp [decodeTable, h8, hraw, hl, List.take_left' (beN_length 4 _),
    fromBE_beN_lt 4 _ (show regs.length < 256 ^ 4 by omega), Nat.not_lt.mpr hn]
  refine List.ext_getElem (by simp) fun i _ hi => ?_
  -- both borders of region `i` lie inside the `i`-th 8-byte piece of `P`
  have w := slice_flatten_map (fun r : Region => beN 4 r.start ++ beN 4 r.stop) 8 (fun _ => by simp) regs i _
    (List.getElem?_eq_getElem hi) []
  rw [List.append_nil, ← hP] at w
  obtain ⟨b1, b2⟩ := hb regs[i] (List.getElem_mem hi)
  have w0 := w 0 4 (by omega)
  rw [Nat.add_zero] at w0
  rw [List.getElem_map, List.getElem_range, w0, w 4 4 (by omega)]
  simp [slice, List.take_of_length_le, fromBE_beN_lt 4 _ b1, fromBE_beN_lt 4 _ b2]

end Ps3.Props.C10
