/-
  C07 — Generated ISO contains exactly the source tree, byte for byte. First part: a file's extent in a well-formed image,
  the records of a file, portable identifiers, the scan covers exactly the tree; at the end `imageBytes`, `locOf`, `lenOf`,
  the definitions Props/C07b and Props/C08d state their theorems with.
-/
import Ps3.Proof.Viso
import Ps3.Proof.Scan
import Ps3.Proof.Recs
import Ps3.Proof.Seg
namespace Ps3.Props.C07
open Ps3.Viso Ps3.Spec.Viso Ps3.Proof.Viso
open Ps3.Proof.BuildWF (cfOf)
open Ps3.Props.C08 (dirLoc dirLen)
open Ps3.Proof.IsoTree (dirBase)

/-- **Extent content**: in a well-formed image, the extent recorded for a file — `size` bytes at
    sector `lba` — holds exactly that file's bytes; the rest of its last sector is zero. -/
theorem extent_content (img : Image) (cf : Nat → Content) (h : WF img cf) (f : FileExt) (hf : f ∈ img.files) :
    slice (flat img cf) (f.lba * sectorSize) f.size = (cf f.ino).all ∧
    slice (flat img cf) (f.lba * sectorSize + f.size) (padded f - f.size) = zeros (padded f - f.size) := by
  obtain ⟨s, t, hst⟩ := List.append_of_mem hf
  have hs := h.sizes f hf
  have hpos : f.lba * sectorSize = img.fsBuf.length + (s.map padded).sum :=
    ((consec_append s (f :: t) _).mp (hst ▸ h.consec)).2.1
  -- the image is: everything before the file, its content, its zero padding, the rest
  have hl : [img.fsBuf ++ flatFiles cf s, (cf f.ino).all, zeros (padded f - f.size)].map List.length =
      [f.lba * sectorSize, f.size, padded f - f.size] := by
    simp [hpos, Content.all_length, hs, flatFiles_length cf s fun g hg => h.sizes g (hst ▸ List.mem_append_left _ hg)]
  have hfl : flat img cf = [img.fsBuf ++ flatFiles cf s, (cf f.ino).all, zeros (padded f - f.size)].flatten ++
      (flatFiles cf t ++ zeros img.padAreaSize) := by
    unfold flat; rw [hst]; simp [flatFiles, fileBytes_eq cf f hs]
  rw [hfl]
  exact ⟨Proof.Seg.seg_at hl 1 rfl (by simp) rfl _, Proof.Seg.seg_at hl 2 rfl (by simp) rfl _⟩

/-- … and reading that extent through the image (library view, network, make-iso) returns them. -/
theorem read_extent (img : Image) (cf : Nat → Content) (h : WF img cf) (f : FileExt) (hf : f ∈ img.files) :
    img.read cf (f.lba * sectorSize) f.size = (cf f.ino).all := by
  rw [read_eq_slice img cf h]; exact (extent_content img cf h f hf).1

/-- A file that fits 32 bits gets one record carrying its exact size (0 for an empty file). -/
theorem single_extent (f : FileRef) (joliet : Bool) (base : Nat) (h : f.size ≤ maxPart) :
    (fileRecs f joliet base).map (fun r => (r.extLoc, r.extLen, r.flags)) = [(f.rLBA + base, f.size, 0)] := by
  rw [Proof.Recs.fileRecs_single joliet base h]
  rfl

/-- A larger file is split into extents of 0xFFFFF800 bytes (all flagged multi-extent) plus a last,
    unflagged one holding the remainder; the extents are contiguous on disc. -/
theorem multi_extent_shape (f : FileRef) (joliet : Bool) (base : Nat) (h : f.size > maxPart) (i : Nat)
    (hi : i < f.size / multiExtentPart + (if f.size % multiExtentPart > 0 then 1 else 0)) :
    ((fileRecs f joliet base)[i]?.map (fun r => (r.extLoc, r.extLen, r.flags))) =
      some (f.rLBA + i * sectors multiExtentPart + base,
            if i = f.size / multiExtentPart + (if f.size % multiExtentPart > 0 then 1 else 0) - 1
              then f.size - i * multiExtentPart else multiExtentPart,
            if i = f.size / multiExtentPart + (if f.size % multiExtentPart > 0 then 1 else 0) - 1
              then 0 else Gen.fs_dirFlagMultiExtent) := by
  unfold fileRecs
  simp only [h, if_true]
  generalize f.size / multiExtentPart + (if f.size % multiExtentPart > 0 then 1 else 0) = parts at hi ⊢
  rw [List.getElem?_map, List.getElem?_range hi]
  by_cases hl : i = parts - 1 <;> simp [hl]

/-- … and their lengths add up to exactly the file's size. -/
theorem multi_extent_total (size P : Nat) (hP : 0 < P) :
    let parts := size / P + (if size % P > 0 then 1 else 0)
    (parts - 1) * P + (size - (parts - 1) * P) = size ∧ (0 < size → size - (parts - 1) * P ≤ P ∧ 0 < size - (parts - 1) * P) := by
  intro parts
  refine ⟨Nat.add_sub_cancel' ?_, Proof.Recs.last_part_bounds size P hP⟩
  -- the parts before the last lie inside the file: the last one is not empty (no parts at all for `size = 0`)
  rcases Nat.eq_zero_or_pos size with rfl | hs
  · simp [parts]
  · exact Nat.le_of_lt (Nat.lt_of_sub_pos (Proof.Recs.last_part_bounds size P hP hs).2)

theorem runes_ascii (s : Bytes) (h : ∀ c ∈ s, c.toNat < 128) : Text.runes s = s.map (·.toNat) := by
  induction s with
  | nil => rfl
  | cons b rest ih =>
    obtain ⟨hb, hr⟩ := List.forall_mem_cons.mp h
    simp only [Text.runes, List.length_cons, Text.runesAux, hb, if_true, List.map_cons]
    exact congrArg _ (ih hr)

theorem mangleD1_ascii (s : Bytes) (h : ∀ c ∈ s, c.toNat < 128 ∧ Gen.fs_d1Characters.contains c = true) :
    mangleD1 (s.map (·.toNat)) = s := by
  unfold mangleD1
  rw [List.map_map]
  refine (List.map_congr_left fun c hc => ?_).trans (List.map_id s)
  obtain ⟨h1, h3⟩ := h c hc
  simp [inSet, h1, List.contains_iff_mem.mp h3]

/-- Names made only of portable characters (here: any d1-characters) and short enough are preserved
    in the Joliet hierarchy (as UCS-2) … -/
theorem identifier_portable_joliet (name : Bytes) (hlen : name.length ≤ 110)
    (hset : ∀ c ∈ name, c.toNat < 128 ∧ Gen.fs_d1Characters.contains c = true) :
    makeIdentifier name true = utf16be name := by
  unfold makeIdentifier
  rw [runes_ascii name fun c hc => (hset c hc).1]
  simp only [if_true]
  rw [List.take_of_length_le (by rw [List.length_map]; exact hlen), mangleD1_ascii name hset]

/-- … and in the primary hierarchy when they are already upper case (lower-case letters are upper-cased). -/
theorem identifier_portable_primary (name : Bytes) (hlen : name.length ≤ 221)
    (hset : ∀ c ∈ name, c.toNat < 128 ∧ Gen.fs_d1Characters.contains c = true ∧ ¬ (97 ≤ c.toNat ∧ c.toNat ≤ 122)) :
    makeIdentifier name false = name := by
  have hup : (name.map (·.toNat)).map Text.toUpperRune = name.map (·.toNat) := by
    rw [List.map_map]
    refine List.map_congr_left fun c hc => ?_
    obtain ⟨h1, _, h4⟩ := hset c hc
    have : c.toNat ≠ 0x131 ∧ c.toNat ≠ 0x17F := by omega
    simp [Text.toUpperRune, h4, this]
  unfold makeIdentifier
  rw [runes_ascii name fun c hc => (hset c hc).1]
  simp only [Bool.false_eq_true, if_false]
  rw [hup, List.take_of_length_le (by rw [List.length_map]; exact hlen),
    mangleD1_ascii name fun c hc => ⟨(hset c hc).1, (hset c hc).2.1⟩]

/-- **Every extent length fits the 32-bit field of a directory record**, for every file size: a
    file up to 2^32−1 bytes is one extent, a larger one is cut into parts of 0xFFFFF800 bytes, so the
    both-endian length field never wraps and the size an ISO reader decodes is the file's. -/
theorem extent_len_fits (f : FileRef) (joliet : Bool) (base : Nat) :
    ∀ r ∈ fileRecs f joliet base, r.extLen < 2 ^ 32 := by
  intro r hr
  obtain ⟨_, _, _, _, _, ⟨_, h⟩ | ⟨_, h⟩⟩ := Proof.Recs.shape_of_mem_fileRecs hr
  · exact Nat.lt_of_le_of_lt h (by decide)
  · rw [h]; decide

/-! ### the scan covers exactly the tree -/

/-- directory `it` of the image was scanned completely and all its sub-directories are in the image too -/
def ItemOk (w : World) (items : List DirItem) (it : DirItem) : Prop :=
  ∃ q mt, w.stat it.path = some (q, .dir mt) ∧ it.mtime = mt ∧
    it.files.map (·.name) = (dirNames w q).filter (isFileAt w it.path) ∧
    (∀ n ∈ dirNames w q, isFileAt w it.path n = true ∨ isDirAt w it.path n = true) ∧
    ∀ n ∈ (dirNames w q).filter (isDirAt w it.path), (it.path ++ [n]) ∈ items.map (·.path)

/-- `ItemOk` with the set of paths that count as present as a parameter: during the scan these are the recorded and the
    pending directories -/
def ItemOkIn (w : World) (P : List Path) (it : DirItem) : Prop :=
  ∃ q mt, w.stat it.path = some (q, .dir mt) ∧ it.mtime = mt ∧
    it.files.map (·.name) = (dirNames w q).filter (isFileAt w it.path) ∧
    (∀ n ∈ dirNames w q, isFileAt w it.path n = true ∨ isDirAt w it.path n = true) ∧
    ∀ n ∈ (dirNames w q).filter (isDirAt w it.path), (it.path ++ [n]) ∈ P

theorem itemOk_iff {w : World} {items : List DirItem} {it : DirItem} :
    ItemOk w items it ↔ ItemOkIn w (items.map (·.path)) it :=
  Iff.rfl

/-- directories reachable from the image root through directory entries (symlinks to directories
    included, as `stat` follows them) -/
inductive Reach (w : World) (root : Path) : Path → Prop
  | root : Reach w root root
  | child (p q : Path) (mt : Nat) (n : Name) : Reach w root p → w.stat p = some (q, .dir mt) →
      n ∈ dirNames w q → isDirAt w p n = true → Reach w root (p ++ [n])

/-- what is recorded (`A`) or pending stays so when `x` moves from the stack to the record and `S` is pushed -/
theorem mem_pop_push {α : Type} {A R S : List α} {x p : α} (h : p ∈ A ++ (R ++ [x])) : p ∈ A ++ [x] ++ (R ++ S) := by
  simp only [List.mem_append, List.mem_singleton] at h ⊢
  rcases h with h | h | h <;> simp [h]

/-- **The scan is complete**: every directory reachable from the root is a directory of the image,
    and every directory of the image lists exactly its file entries (in enumeration order) and has
    all its sub-directories in the image — nothing under the root is left out and nothing is invented. -/
theorem scan_complete (w : World) (root : Path) (items : List DirItem) (e : Nat)
    (h : scan w scanFuel [root] [] 0 = some (items, e)) :
    (∀ p, Reach w root p → p ∈ items.map (·.path)) ∧ ∀ it ∈ items, ItemOk w items it := by
  -- invariant: the root and every sub-directory of a recorded directory is recorded or still on the stack
  have hinv := Proof.Scan.scan_rule (fun stack acc _ => root ∈ acc.map (·.path) ++ stack ∧
    ∀ it ∈ acc, ItemOkIn w (acc.map (·.path) ++ stack) it) ?_ h
    ⟨List.mem_cons_self, fun _ hit => (List.not_mem_nil hit).elim⟩
  · rw [List.append_nil] at hinv
    obtain ⟨hroot, hok⟩ := hinv
    refine ⟨fun p hp => ?_, fun it hit => itemOk_iff.mpr (hok it hit)⟩
    induction hp with
    | root => exact hroot
    | child p q mt n _ hst hn hd ih =>
      obtain ⟨it, hit, rfl⟩ := List.mem_map.mp ih
      obtain ⟨q', mt', hst', _, _, _, hsub⟩ := hok it hit
      cases hst.symm.trans hst'
      exact hsub n (List.mem_filter.mpr ⟨hn, hd⟩)
  · intro rest acc s path q mt files s' hst hnames hkinds _ _ ⟨hroot, hok⟩
    refine ⟨by rw [List.map_append]; exact mem_pop_push hroot, fun it hit => ?_⟩
    rcases List.mem_append.mp hit with hit | hit
    · obtain ⟨q', mt', a, b, c, d, hsub⟩ := hok it hit
      exact ⟨q', mt', a, b, c, d, fun n hn => by rw [List.map_append]; exact mem_pop_push (hsub n hn)⟩
    · cases List.mem_singleton.mp hit
      exact ⟨q, mt, hst, rfl, hnames, hkinds, fun n hn =>
        List.mem_append_right _ (List.mem_append_right _ (List.mem_map.mpr ⟨n, hn, rfl⟩))⟩

/-- … for the layout every generated image is built from -/
theorem layout_tree_complete (w : World) (root : Path) (ps3 : Bool) (L : Layout) (h : layoutOf w root ps3 = some L) :
    (∀ p, Reach w root p → p ∈ L.items.map (·.path)) ∧ ∀ it ∈ L.items, ItemOk w L.items it := by
  obtain ⟨fsec, _, hscan, _⟩ := layoutOf_inv h
  exact scan_complete w root _ fsec hscan

/-- the image as one byte string -/
def imageBytes (w : World) (L : Layout) (ps3 : Bool) (clk : Clock) (filler : Bytes) : Bytes :=
  flat (imageOf L ps3 clk filler) (cfOf w)

theorem imageBytes_eq (w : World) (L : Layout) (ps3 : Bool) (clk : Clock) (filler : Bytes) :
    imageBytes w L ps3 clk filler =
      metaBytes L ps3 clk filler ++ (flatFiles (cfOf w) L.files ++ zeros (L.padSectors * sectorSize)) :=
  rfl

/-- where directory `k` of one hierarchy is, as the generator computed it -/
def locOf (L : Layout) (joliet : Bool) (k : Nat) : Nat := dirLoc L.items joliet (dirBase L joliet) k
def lenOf (L : Layout) (joliet : Bool) (k : Nat) : Nat := dirLen L.items joliet k

end Ps3.Props.C07
