/-
  C08 (second part) — link consistency and extent placement; needs `build_wf`, which itself uses the
  record-size theorems of Props/C08.lean, hence a separate module.
-/
import Ps3.Proof.BuildWF
namespace Ps3.Props.C08
open Ps3.Viso Ps3.Spec.Viso

/-- the "." record of every directory names the directory's own extent -/
theorem dot_points_to_self (items : List DirItem) (rootLen : Nat) (joliet : Bool) (dirLBA filesLBA k : Nat) (it : DirItem) :
    (finalRecs items rootLen joliet dirLBA filesLBA k it).head? =
      some ⟨dirLoc items joliet dirLBA k, dirLen items joliet k, recTime it.mtime, 2, [0]⟩ :=
  rfl

/-- the ".." record names the parent's extent (the root's own for the root) -/
theorem dotdot_points_to_parent (items : List DirItem) (rootLen : Nat) (joliet : Bool) (dirLBA filesLBA k : Nat) (it : DirItem) :
    ((finalRecs items rootLen joliet dirLBA filesLBA k it)[1]?.map (fun r => (r.extLoc, r.extLen, r.ident))) =
      some (match parentIdx items it rootLen with
        | some p => (dirLoc items joliet dirLBA p, dirLen items joliet p, ([1] : Bytes))
        | none => (dirLoc items joliet dirLBA k, dirLen items joliet k, ([1] : Bytes))) := by
  unfold finalRecs
  cases parentIdx items it rootLen <;> rfl

/-- a parent's record for child `j` carries exactly the location and length that child's own "." record carries -/
theorem child_record_matches_child_dot (items : List DirItem) (rootLen : Nat) (joliet : Bool) (dirLBA filesLBA k j : Nat)
    (it c : DirItem) (hj : j ∈ childrenIdx items it) (hc : items[j]? = some c) :
    ∃ r ∈ finalRecs items rootLen joliet dirLBA filesLBA k it,
      r.ident = makeIdentifier c.name joliet ∧ r.flags = 2 ∧
      (finalRecs items rootLen joliet dirLBA filesLBA j c).head?.map (fun d => (d.extLoc, d.extLen)) = some (r.extLoc, r.extLen) := by
  refine ⟨⟨dirLoc items joliet dirLBA j, dirLen items joliet j, recTime c.mtime, 2, makeIdentifier c.name joliet⟩, ?_, rfl, rfl, ?_⟩
  · exact List.mem_append_right _ (Proof.Recs.mem_lookups.mpr ⟨j, hj, c, hc, rfl⟩)
  · rw [dot_points_to_self]; rfl

/-- the path table entry of directory `i` points at that directory's extent -/
theorem path_table_points_to_dirs (items : List DirItem) (rootLen : Nat) (joliet : Bool) (dirLBA : Nat) :
    ∀ e ∈ pathTable items rootLen joliet dirLBA, ∃ i, i < items.length ∧ e.loc = dirLoc items joliet dirLBA i := by
  intro e he
  obtain ⟨i, _, it, h, rfl⟩ := Proof.Recs.mem_lookups.mp he
  exact ⟨i, (List.getElem?_eq_some_iff.mp h).1, rfl⟩

/-- directories of one hierarchy lie back to back: each starts where the previous one ends -/
theorem dir_extents_consecutive (items : List DirItem) (joliet : Bool) (dirLBA j : Nat) (hj : j < items.length) :
    dirLoc items joliet dirLBA (j + 1) = dirLoc items joliet dirLBA j + (dirSectors items joliet)[j]?.getD 0 := by
  have hl : j < (dirSectors items joliet).length := by rw [dirSectors, List.length_map]; exact hj
  rw [dirLoc, dirLoc, prefixSum, prefixSum, List.take_add_one, List.sum_append, List.getElem?_eq_getElem hl]
  exact Nat.add_right_comm _ _ _

theorem consec_bounds {fs : List FileExt} {start : Nat} (h : Consec start fs) :
    ∀ f ∈ fs, start ≤ f.lba * sectorSize ∧ f.lba * sectorSize + padded f ≤ start + (fs.map padded).sum := by
  intro f hf
  obtain ⟨s, t, rfl⟩ := List.append_of_mem hf
  have hpos : f.lba * sectorSize = start + (s.map padded).sum := ((consec_append s (f :: t) start).mp h).2.1
  simp only [List.map_append, List.map_cons, List.sum_append, List.sum_cons]
  omega

theorem consec_disjoint {fs : List FileExt} {start : Nat} (h : Consec start fs) :
    fs.Pairwise (fun a b => a.lba * sectorSize + padded a ≤ b.lba * sectorSize) := by
  induction fs generalizing start with
  | nil => exact List.Pairwise.nil
  | cons g rest ih =>
    obtain ⟨hg, hrest⟩ := h
    refine List.Pairwise.cons ?_ (ih hrest)
    intro b hb
    have := (consec_bounds hrest b hb).1
    omega

/-- **All file extents of a built image lie inside the file zone — behind the metadata, before the
    pad area — and do not overlap**, for every tree. -/
theorem file_extents_inside_and_disjoint (w : World) (root : Path) (ps3 : Bool) (clk : Clock) (filler : Bytes) (img : Image)
    (h : build w root ps3 clk filler = some img) :
    (∀ f ∈ img.files, img.fsBuf.length ≤ f.lba * sectorSize ∧ f.lba * sectorSize + padded f ≤ img.padAreaStart) ∧
    img.files.Pairwise (fun a b => a.lba * sectorSize + padded a ≤ b.lba * sectorSize) ∧
    img.padAreaStart + img.padAreaSize = img.totalSize := by
  have wf := Proof.BuildWF.build_wf w root ps3 clk filler img h
  exact ⟨fun f hf => wf.padStart ▸ consec_bounds wf.consec f hf, consec_disjoint wf.consec, wf.total.symm⟩

/-- **Every sector number of a generated image fits the 32-bit fields that carry it** (and the
    server's int32 arithmetic): for every tree the server accepts, the volume — metadata, files and
    padding — ends at or below sector 2^31−1; a tree that would not fit is refused at open. -/
theorem volume_fits (w : World) (root : Path) (ps3 : Bool) (L : Layout) (h : layoutOf w root ps3 = some L) :
    L.volSectors ≤ maxSector ∧ L.filesLBA ≤ L.volumeSize ∧ L.volumeSize < L.volSectors ∧ maxSector < 2 ^ 32 := by
  have F := Proof.BuildWF.layoutOf_facts h
  obtain ⟨_, hge, hlt⟩ : _ ∧ 32 ≤ padSectorsFor L.volumeSize ∧ padSectorsFor L.volumeSize < 64 :=
    pad_rule L.volumeSize
  obtain ⟨e, _, hv⟩ : ∃ e, _ ∧ L.volumeSize = L.filesLBA + e := F.run
  have hfit : L.volumeSize + 2 * 32 ≤ maxSector := F.fits
  rw [F.vol, F.pad]
  exact ⟨Nat.le_trans (Nat.add_le_add_left (Nat.le_of_lt hlt) _) hfit, hv ▸ Nat.le_add_right _ _,
    Nat.lt_add_of_pos_right (Nat.lt_of_lt_of_le (by decide) hge), by decide⟩

/-- **Every directory of an accepted tree has a path-table number**: a tree with more directories
    than the 16-bit numbering of the path table reaches is refused at open (the table used to stop at
    65536 entries silently, leaving the remaining directories out of all four tables). -/
theorem directory_numbers_fit (w : World) (root : Path) (ps3 : Bool) (L : Layout) (h : layoutOf w root ps3 = some L) :
    L.items.length ≤ 65536 := by
  have F := Proof.BuildWF.layoutOf_facts h
  have : Gen.fs_pathTableItemsLimit = 65536 := rfl
  rw [← this]; exact F.dirs

end Ps3.Props.C08
