/-
  C09 — Generated ISO reads are position-independent (one fixed byte string).
-/
import Ps3.Proof.Viso
import Ps3.Proof.BuildWF
namespace Ps3.Props.C09
open Ps3.Viso Ps3.Spec.Viso

/-- A well-formed generated image behaves as ONE fixed byte string (`flat`: metadata, every
    non-empty file padded to a sector, zero pad area): a read at **any** offset with **any** buffer
    size — aligned or not, crossing the boundaries between metadata, files, inter-file padding and
    trailing padding — returns exactly the corresponding slice. No bound on sizes or counts. -/
theorem read_eq_slice (img : Image) (cf : Nat → Content) (h : WF img cf) (off n : Nat) :
    img.read cf off n = slice (flat img cf) off n := Proof.Viso.read_eq_slice img cf h off n

/-- Progress: inside the image a non-empty buffer always receives min(n, size − off) ≥ 1 bytes;
    at or after the end nothing is returned (the call reports end-of-file). -/
theorem read_progress (img : Image) (cf : Nat → Content) (h : WF img cf) (off n : Nat) :
    (img.read cf off n).length = min n (img.totalSize - off) := by
  rw [read_eq_slice img cf h, slice_length, Proof.Viso.flat_length img cf h]

theorem read_at_end (img : Image) (cf : Nat → Content) (off n : Nat) (h : off ≥ img.totalSize) :
    img.read cf off n = [] := by
  simp [Image.read, h]

/-- Any sequence of Read / Seek(start|current|end) / ReadAt observes on the image exactly what the
    same sequence observes on the canonical byte string (cursor simulation), for every start cursor. -/
theorem ops_eq_spec (img : Image) (cf : Nat → Content) (h : WF img cf) (ops : List Op) (cur : Nat) :
    runOps (img.read cf) img.totalSize cur ops = runOps (slice (flat img cf)) img.totalSize cur ops := by
  rw [Proof.Viso.read_fun_eq_slice img cf h]

/-- Sequential reads with any chunk sizes reassemble the canonical string (what io.Copy sees). -/
theorem sequential_reads (img : Image) (cf : Nat → Content) (h : WF img cf) (off a b : Nat) :
    img.read cf off (a + b) = img.read cf off a ++ img.read cf (off + a) b := by
  simp only [read_eq_slice img cf h, slice_add]

/-- Seek relative to the end: Seek(0, End) is the size, Seek(−k, End) is size − k. -/
theorem seek_end (rd : Nat → Nat → Bytes) (total cur k : Nat) (hk : k ≤ total) :
    stepOp rd total cur (.seek (-(k : Int)) 2) = (total - k, .pos (total - k)) := by
  simp [stepOp, show ((total : Int) + -(k : Int)).toNat = total - k by omega]
  omega

/-- Seeking past the end or before the start is refused and leaves the cursor alone. -/
theorem seek_out_of_range (rd : Nat → Nat → Bytes) (total cur : Nat) (off : Int) (h : off < 0 ∨ off > total) :
    stepOp rd total cur (.seek off 0) = (cur, .err) := by
  simp [stepOp, h]

/-- The executable well-formedness check the differential run evaluates for every generated image
    is sound for `WF` (so each explored tree satisfies the hypothesis of the theorems above). -/
theorem wf_check_sound (img : Image) (cf : Nat → Content) (h : wfB img cf = true) : WF img cf := by
  simp only [wfB, Bool.and_eq_true, beq_iff_eq, List.all_eq_true] at h
  obtain ⟨⟨⟨⟨h1, h2⟩, h3⟩, h4⟩, h5⟩ := h
  exact ⟨consecB_sound _ _ h1, h2, h3, h4, h5⟩

/-- **Every image `build` produces is well-formed** — for every world (tree shape, names, sizes,
    symlinks), every root and both modes: the metadata area is exactly as long as the layout
    arithmetic assumed (descriptors, four path tables, both directory hierarchies), the member files
    occupy consecutive sector runs in scan order right behind it with their inodes' sizes, then the
    pad area. The hypothesis `WF` of the theorems above is therefore always met by the code's images. -/
theorem build_wf (w : World) (root : Path) (ps3 : Bool) (clk : Clock) (filler : Bytes) (img : Image)
    (h : build w root ps3 clk filler = some img) : WF img (Proof.BuildWF.cfOf w) :=
  Proof.BuildWF.build_wf w root ps3 clk filler img h

/-- … hence, unconditionally: any read of any generated image is a slice of its one canonical string. -/
theorem built_read_eq_slice (w : World) (root : Path) (ps3 : Bool) (clk : Clock) (filler : Bytes) (img : Image)
    (h : build w root ps3 clk filler = some img) (off n : Nat) :
    img.read (Proof.BuildWF.cfOf w) off n = slice (flat img (Proof.BuildWF.cfOf w)) off n :=
  read_eq_slice img _ (build_wf w root ps3 clk filler img h) off n

theorem built_ops_eq_spec (w : World) (root : Path) (ps3 : Bool) (clk : Clock) (filler : Bytes) (img : Image)
    (h : build w root ps3 clk filler = some img) (ops : List Op) (cur : Nat) :
    runOps (img.read (Proof.BuildWF.cfOf w)) img.totalSize cur ops =
      runOps (slice (flat img (Proof.BuildWF.cfOf w))) img.totalSize cur ops :=
  ops_eq_spec img _ (build_wf w root ps3 clk filler img h) ops cur

/-- the announced size is a whole number of sectors and is the length of the canonical string -/
theorem built_size (w : World) (root : Path) (ps3 : Bool) (clk : Clock) (filler : Bytes) (img : Image)
    (h : build w root ps3 clk filler = some img) :
    (flat img (Proof.BuildWF.cfOf w)).length = img.totalSize :=
  Proof.Viso.flat_length img _ (build_wf w root ps3 clk filler img h)

/-- non-vacuity: a concrete image (one 3-byte file in the first sector, then the pad area) is
    well-formed, and a read crossing file data → padding is the slice -/
example :
    let img : Image := ⟨[], [⟨0, 3, 0⟩], 2048, 2048, 4096⟩
    let cf : Nat → Content := fun _ => Content.ofBytes [7, 8, 9]
    wfB img cf = true ∧ img.read cf 1 4 = [8, 9, 0, 0] := by
  decide

end Ps3.Props.C09
