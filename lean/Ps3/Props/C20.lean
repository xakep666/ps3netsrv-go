/-
  C20 — Offline tools: make-iso and decrypt outputs are exact and never clobber files.
-/
import Ps3.Model.Tools
import Ps3.Proof.Viso
import Ps3.Props.C10
import Ps3.Proof.BuildWF
namespace Ps3.Props.C20
open Ps3.Tools Ps3.Viso Ps3.Spec.Viso Ps3.Crypt Ps3.Proof.Slice

/-- A copy loop over a source that behaves like one fixed byte string `img` (reads are slices)
    writes exactly `img[off:]` clipped to what the chunks ask for — for every schedule of chunk sizes. -/
theorem copy_is_slice (img : Bytes) (off : Nat) (cs : List Nat) :
    copyChunks (slice img) off cs = slice img off cs.sum := by
  induction cs generalizing off with
  | nil => simp [copyChunks, slice_zero_len]
  | cons c cs ih =>
    simp only [copyChunks, List.sum_cons]
    rw [ih, slice_add]
    congr 1
    -- a read that came back short reached the end of `img`: both continuations are empty
    by_cases h : off + c ≤ img.length
    · rw [slice_length, Nat.min_eq_left (by omega)]
    · rw [slice_eq_nil (.inl (by rw [slice_length]; omega)), slice_eq_nil (.inl (by omega))]

/-- make-iso writes exactly the image the server announces and serves: copying a well-formed image
    from offset 0 with any chunk sizes adding up to its size yields the canonical byte string. -/
theorem makeiso_eq_view (img : Image) (cf : Nat → Content) (h : WF img cf) (cs : List Nat)
    (hs : cs.sum = img.totalSize) :
    copyChunks (img.read cf) 0 cs = flat img cf := by
  have hlen := Proof.Viso.flat_length img cf h
  rw [Proof.Viso.read_fun_eq_slice img cf h, copy_is_slice, hs, ← hlen]
  exact slice_zero_all (Nat.le_refl _)

/-- Unconditionally: for every tree make-iso's output (any chunking of the copy) is the canonical
    byte string of the image the server would announce and serve for that tree. -/
theorem makeiso_built (w : World) (root : Path) (ps3 : Bool) (clk : Clock) (filler : Bytes) (img : Image)
    (h : build w root ps3 clk filler = some img) (cs : List Nat) (hs : cs.sum = img.totalSize) :
    copyChunks (img.read (Proof.BuildWF.cfOf w)) 0 cs = flat img (Proof.BuildWF.cfOf w) :=
  makeiso_eq_view img _ (Proof.BuildWF.build_wf w root ps3 clk filler img h) cs hs

/-- decrypt writes exactly the reference plaintext with the region table blanked: for a table of
    `h` header bytes the whole-file read is `h` zeros followed by the plaintext from `h` on. -/
theorem decrypt_eq_plain {D : Nat → Bytes → Bytes} {rd : Nat → Nat → Bytes} {size : Nat}
    (E : Proof.Crypt.Env D rd size) (gs : List Region) (h : Nat) (hh : h ≤ size) (hpos : 0 < h) :
    readDec D gs rd size h 0 size = zeros h ++ (Proof.Crypt.plainAll D gs rd size).drop h := by
  have hall := Proof.Crypt.plainAll_length E gs
  rw [Props.C10.clear_header, Proof.Crypt.readDec_eq_slice E gs 0 size, slice_zero_all (Nat.le_of_eq hall), hall,
    if_pos hpos, Nat.sub_zero, Nat.min_eq_left hh]

/-- After `decrypt 3k3y` the watermark area is zero, so the output is no longer recognised as a
    3k3y image: placed under a served root it is passed through without a second transformation. -/
theorem masked_output_not_3k3y (rd : Nat → Nat → Bytes)
    (hz : (rd maskBegin Gen.fs__3k3yMaskedDataSize).take 16 = zeros 16) : test3k3y rd = .no := by
  have h1 : (zeros 16 == Gen.fs__3k3yEncWatermark.map UInt8.ofNat) = false := by decide
  have h2 : (zeros 16 == Gen.fs__3k3yDecWatermark.map UInt8.ofNat) = false := by decide
  simp [test3k3y, hz, h1, h2]

/-- Neither tool ever opens an already existing output path: it is refused before any open
    (the window between the existence test and the open is the operating system's, not the model's). -/
theorem output_never_clobbers (path : Bytes) : outputDecision path true ≠ .create := by
  unfold outputDecision
  split <;> simp

/-- "-" means standard output, whatever exists on disc; a new path is created. -/
theorem output_dash_is_stdout (e : Bool) : outputDecision [45] e = .stdout := by simp [outputDecision]
theorem output_new_is_created (path : Bytes) (h : path ≠ [45]) : outputDecision path false = .create := by
  simp [outputDecision, h]

end Ps3.Props.C20
