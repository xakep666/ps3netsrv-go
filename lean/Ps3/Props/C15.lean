/-
  C15 — Admission control: whitelist and client limit are enforced, capacity recovers.
  (Membership in the whitelist is C14's; kernel backlog behaviour and timing are observed, not proved.)
-/
import Ps3.Model.Admission
namespace Ps3.Props.C15
open Ps3.Admission

/-- the accept loop never hands out more slots than the limit -/
theorem drain_bounded {fuel : Nat} {s : St} :
    s.served.length ≤ s.cap → (drain fuel s).served.length ≤ (drain fuel s).cap ∧ (drain fuel s).cap = s.cap := by
  fun_induction drain fuel s
  case case5 ih => intro; exact ih (by simp; omega)    -- the head is accepted: a slot was free
  case case3 ih | case4 ih => exact ih                 -- the head is dropped (outsider, or gave up)
  all_goals exact fun h => ⟨h, rfl⟩

/-- **At most N connections are served at any moment**, for every sequence of arrivals (whitelisted
    or not) and departures, in any order. -/
theorem at_most_N (s : St) (h : s.served.length ≤ s.cap) (e : Ev) :
    (step s e).served.length ≤ (step s e).cap ∧ (step s e).cap = s.cap := by
  cases e with
  | arrive id inside => exact drain_bounded h
  | depart id =>
    simp only [step]
    split
    · refine drain_bounded (Nat.le_trans ?_ h)
      dsimp only
      split
      · exact List.length_filter_le ..
      · exact Nat.le_refl _
    · exact ⟨h, rfl⟩

theorem at_most_N_run (cap : Nat) (es : List Ev) : ∀ s ∈ run (init cap) es, s.served.length ≤ cap := by
  suffices h : ∀ s0 : St, s0.served.length ≤ s0.cap → ∀ s ∈ run s0 es, s.served.length ≤ s0.cap from
    h (init cap) (Nat.zero_le _)
  induction es with
  | nil => nofun
  | cons e rest ih =>
    intro s0 h0
    obtain ⟨hb, hc⟩ := at_most_N s0 h0 e
    exact List.forall_mem_cons.mpr ⟨hc ▸ hb, hc ▸ ih _ hb⟩

/-- a peer outside the whitelist at the head of the queue is closed and never enters `served`
    (zero requests processed, zero bytes sent), and the slot it briefly held is free again -/
theorem outsider_dropped (fuel : Nat) (s : St) (p : Pending) (rest : List Pending)
    (hq : s.queue = p :: rest) (ho : p.inside = false) (hfree : s.served.length < s.cap) :
    drain (fuel + 1) s = drain fuel { s with queue := rest, rejected := s.rejected ++ [p.id] } := by
  simp [drain, hq, ho, hfree]

theorem drain_accept {fuel : Nat} {s : St} (p : Pending) (rest : List Pending) (hq : s.queue = p :: rest)
    (hfree : s.served.length < s.cap) (hin : p.inside = true) (ha : p.alive = true) :
    drain (fuel + 1) s =
      drain fuel { s with queue := rest, served := s.served ++ [p.id], everServed := s.everServed ++ [p.id] } := by
  rw [drain]
  simp [hq, hin, ha, hfree]

/-- served connections only ever come from the queue heads that were inside the whitelist:
    one accept-loop iteration adds to `served` only an inside, alive peer -/
theorem served_only_insiders (s : St) (p : Pending) (rest : List Pending) (hq : s.queue = p :: rest)
    (hfree : s.served.length < s.cap) (hin : p.inside = true) (ha : p.alive = true) :
    drain 1 s = { s with queue := rest, served := s.served ++ [p.id], everServed := s.everServed ++ [p.id] } :=
  drain_accept p rest hq hfree hin ha

/-- An insider arriving while a slot is free and nobody is waiting is served at once. -/
theorem insider_served (s : St) (id : Nat) (hq : s.queue = []) (hfree : s.served.length < s.cap) :
    id ∈ (step s (.arrive id true)).served := by
  simp [step, hq, drain, hfree]

/-- A departing connection gives its slot back: it is no longer counted, whatever is queued. -/
theorem depart_frees_slot (s : St) (id : Nat) (hs : s.served.contains id = true) (hq : s.queue = []) :
    (step s (.depart id)).served = s.served.filter (· != id) := by
  simp only [step, hs, if_true, hq]
  simp [drain, Gen.server_connCloseDeferred]

theorem drain_keeps_served {x fuel : Nat} {t : St} : x ∈ t.served → x ∈ (drain fuel t).served := by
  fun_induction drain fuel t
  case case5 ih => intro h; exact ih (by simp [h])     -- the head is accepted
  case case3 ih | case4 ih => exact ih                 -- the head is dropped
  all_goals exact id

/-- and a waiting insider takes the freed slot immediately (capacity is never lost) -/
theorem waiting_insider_takes_freed_slot (s : St) (id : Nat) (p : Pending) (rest : List Pending)
    (hs : s.served.contains id = true) (hq : s.queue = p :: rest) (hin : p.inside = true) (ha : p.alive = true)
    (hfull : (s.served.filter (· != id)).length < s.cap) :
    p.id ∈ (step s (.depart id)).served := by
  simp only [step, hs, if_true, hq, List.length_cons]
  rw [drain_accept p rest rfl hfull hin ha]
  exact drain_keeps_served (by simp)

end Ps3.Props.C15
