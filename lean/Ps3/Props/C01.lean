/-
  C01 — Root confinement: no request reaches outside the served root.
-/
import Ps3.Model.Conn
namespace Ps3.Props.C01
open Ps3.Conn Ps3.Proto Ps3.PathStr

/-- For **every** byte string a client can put into any path-carrying request, what the server
    hands to the filesystem layer consists of normal components only: no "..", no ".", no empty
    component, no separator inside a component. (All eight opcodes go through `cleanRequest`;
    that they do is the F-shape fact `server_paths_cleaned`, and the model's `step` below.) -/
theorem request_path_normal (p : Bytes) : ∀ c ∈ cleanRequest p, normal c = true :=
  cleanRooted_forall nofun fun c m h1 h2 => by
    have := splitSlash_no_slash _ c m
    simp_all [normal]

theorem request_path_no_dotdot (p : Bytes) : [dot, dot] ∉ cleanRequest p :=
  fun h => absurd (request_path_normal p _ h) (by decide)

/-- The OS path the base filesystem resolves a request path to: `Clean(Join(root, "/" ++ p'))`
    with `p' = cleanRequest p`, in components. -/
def realPath (root : List Bytes) (p : Bytes) : List Bytes := root ++ cleanRequest p

/-- … is the root or lies below it, whatever the client sent and whatever the root is (after kong's
    `filepath.Abs` a clean rooted path, `cleanRooted [] (splitSlash root)` in this model). -/
theorem realPath_within (root : List Bytes) (p : Bytes) : within root (realPath root p) = true := by
  simp [within, realPath]

/-- and it only ever *extends* the root by normal components: no step of the resolution can rise
    above the root, so the OS resolves it below the root (symlinks apart, which are the operator's). -/
theorem realPath_extends_normally (root : List Bytes) (p : Bytes) :
    ∃ ext, realPath root p = root ++ ext ∧ ∀ c ∈ ext, normal c = true :=
  ⟨cleanRequest p, rfl, request_path_normal p⟩

/-- The classic escapes are clamped inside the root (they used to reach a sibling directory whose
    name has the root's name as a prefix). "/../games-other/secret" and "../games-other/secret": -/
theorem sibling_escape_clamped :
    cleanRequest [47, 46, 46, 47, 103, 97, 109, 101, 115, 45, 111, 116, 104, 101, 114, 47, 115, 101, 99, 114, 101, 116]
      = [[103, 97, 109, 101, 115, 45, 111, 116, 104, 101, 114], [115, 101, 99, 114, 101, 116]] ∧
    cleanRequest [46, 46, 47, 103, 97, 109, 101, 115, 45, 111, 116, 104, 101, 114, 47, 115, 101, 99, 114, 101, 116]
      = [[103, 97, 109, 101, 115, 45, 111, 116, 104, 101, 114], [115, 101, 99, 114, 101, 116]] := by
  decide

/-- Paths derived from a request path stay confined: appending a directory-entry name the OS
    returned (never "." / ".." / containing '/'), replacing a component by a normal one (REDKEY),
    or re-rooting below the virtual prefix all preserve normality. -/
theorem derived_append (p : Path) (n : Name) (hp : ∀ c ∈ p, normal c = true) (hn : normal n = true) :
    ∀ c ∈ p ++ [n], normal c = true :=
  List.forall_mem_append.mpr ⟨hp, List.forall_mem_singleton.mpr hn⟩

theorem derived_set (p : Path) (i : Nat) (n : Name) (hp : ∀ c ∈ p, normal c = true) (hn : normal n = true) :
    ∀ c ∈ p.set i n, normal c = true :=
  fun c hc => (List.mem_or_eq_of_mem_set hc).elim (hp c) (· ▸ hn)

theorem derived_drop (p : Path) (k : Nat) (hp : ∀ c ∈ p, normal c = true) : ∀ c ∈ p.drop k, normal c = true :=
  fun c hc => hp c (List.mem_of_mem_drop hc)

/-- "REDKEY", "PS3_GAME" and "PARAM.SFO" are normal components -/
theorem fixed_components_normal :
    normal Gen.fs_redkeyDir = true ∧ normal [80, 83, 51, 95, 71, 65, 77, 69] = true ∧
    normal [80, 65, 82, 65, 77, 46, 83, 70, 79] = true := by decide

/-- In the model every access to the world made on behalf of a request goes through
    `cleanRequest`: responses are a function of the world *inside* the root only (the model has no
    other world), and a request whose cleaned path names nothing is answered as "not found". -/
theorem stat_depends_on_clean_path_only (cfg : Cfg) (w : World) (st : State) (p p' : Bytes)
    (h : cleanRequest p = cleanRequest p') :
    step cfg w st (.statFile p) = step cfg w st (.statFile p') :=
  congrArg (fun q => (w, st, (⟨statFileResult (statInfo w q), false⟩ : Out))) h

theorem all_path_ops_depend_on_clean_path_only (cfg : Cfg) (w : World) (st : State) (p p' : Bytes)
    (h : cleanRequest p = cleanRequest p') :
    step cfg w st (.openDir p) = step cfg w st (.openDir p') ∧
    step cfg w st (.openFile p) = step cfg w st (.openFile p') ∧
    step cfg w st (.createFile p) = step cfg w st (.createFile p') ∧
    step cfg w st (.deleteFile p) = step cfg w st (.deleteFile p') ∧
    step cfg w st (.mkdir p) = step cfg w st (.mkdir p') ∧
    step cfg w st (.rmdir p) = step cfg w st (.rmdir p') ∧
    step cfg w st (.getDirSize p) = step cfg w st (.getDirSize p') := by
  simp only [step, h, and_self]

/-- The served root directory itself is never removed, whatever spelling of it a client sends
    ("/", "", "/..", "/x/../.." all clean to the root): RMDIR answers the failure code and nothing changes.
    (Removing it would change the root's parent directory, which lies outside the root.) -/
theorem root_never_removed (cfg : Cfg) (w : World) (st : State) (raw : Bytes)
    (hroot : cleanRequest raw = []) :
    step cfg w st (.rmdir raw) = (w, st, ⟨rmdirResult false, false⟩) := by
  unfold step
  simp only [hroot, List.isEmpty_nil, ↓reduceIte, ite_self]

end Ps3.Props.C01
