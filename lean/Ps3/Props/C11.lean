/-
  C11 — Image-kind detection and key discovery pick the documented source.
-/
import Ps3.Model.FSWrap
import Ps3.Proof.Content
namespace Ps3.Props.C11
open Ps3.FSWrap Ps3.Crypt Ps3.Conn

/-- A file whose extension is not `.iso` (in any case) never gets a key looked up. -/
theorem not_iso_no_key (w : World) (p : Path) (name : Name) (hl : p.getLast? = some name)
    (h : lowerBytes (extOf name) ≠ lowerBytes Gen.fs_isoExt) : redumpKey w p = .notFound := by
  simp [redumpKey, hl, h]

/-- Nor does a file that is not below a `ps3iso` element (in any case). -/
theorem not_below_ps3iso_no_key (w : World) (p : Path)
    (h : p.findIdx? (fun c => lowerBytes c == lowerBytes Gen.fs_ps3isoDir) = none) : redumpKey w p = .notFound := by
  simp only [redumpKey, h, ite_self]
  split <;> rfl

/-- The key file beside the image wins over the REDKEY one, whatever the latter contains;
    a malformed adjacent key makes the open fail — there is no fallback. -/
theorem adjacent_wins (w : World) (p : Path) (name : Name) (idx : Nat) (r : KeyLookup)
    (hl : p.getLast? = some name) (he : lowerBytes (extOf name) = lowerBytes Gen.fs_isoExt)
    (hi : p.findIdx? (fun c => lowerBytes c == lowerBytes Gen.fs_ps3isoDir) = some idx)
    (hk : keyAt w (p.dropLast ++ [dkeyName name]) = some r) : redumpKey w p = r := by
  simp [redumpKey, hl, he, hi, hk]

/-- Without an adjacent key file, the one in the parallel REDKEY directory is used. -/
theorem redkey_fallback (w : World) (p : Path) (name : Name) (idx : Nat) (r : KeyLookup)
    (hl : p.getLast? = some name) (he : lowerBytes (extOf name) = lowerBytes Gen.fs_isoExt)
    (hi : p.findIdx? (fun c => lowerBytes c == lowerBytes Gen.fs_ps3isoDir) = some idx)
    (hk : keyAt w (p.dropLast ++ [dkeyName name]) = none)
    (hr : keyAt w ((p.set idx Gen.fs_redkeyDir).dropLast ++ [dkeyName name]) = some r) : redumpKey w p = r := by
  simp [redumpKey, hl, he, hi, hk, hr]

theorem no_key_anywhere (w : World) (p : Path) (name : Name) (idx : Nat)
    (hl : p.getLast? = some name) (he : lowerBytes (extOf name) = lowerBytes Gen.fs_isoExt)
    (hi : p.findIdx? (fun c => lowerBytes c == lowerBytes Gen.fs_ps3isoDir) = some idx)
    (hk : keyAt w (p.dropLast ++ [dkeyName name]) = none)
    (hr : keyAt w ((p.set idx Gen.fs_redkeyDir).dropLast ++ [dkeyName name]) = none) : redumpKey w p = .notFound := by
  simp [redumpKey, hl, he, hi, hk, hr]

/-- A key file is 32 hex digits (either case); anything else is malformed. -/
theorem key_file_malformed_fails (w : World) (p : Path) (q : Path) (i : Nat) (f : Inode)
    (hs : w.stat p = some (q, .file i)) (hf : w.inode? i = some f) (hbad : readKeyFile f.content.all = none) :
    keyAt w p = some .failed := by
  simp [keyAt, hs, hf, hbad]

/-- case-insensitivity is Go's `strings.ToLower` equality; all spellings of the names concerned: -/
example : lowerBytes [80, 83, 51, 73, 83, 79] = lowerBytes Gen.fs_ps3isoDir ∧       -- "PS3ISO"
    lowerBytes [80, 115, 51, 73, 115, 79] = lowerBytes Gen.fs_ps3isoDir ∧             -- "Ps3IsO"
    lowerBytes [46, 73, 83, 79] = lowerBytes Gen.fs_isoExt ∧                          -- ".ISO"
    lowerBytes [46, 73, 115, 79] = lowerBytes Gen.fs_isoExt ∧                         -- ".IsO"
    lowerBytes [80, 83, 51, 73, 83, 79, 50] ≠ lowerBytes Gen.fs_ps3isoDir := by decide -- "PS3ISO2"

/-- extension = from the last dot of the file name -/
example : extOf [97, 46, 98, 46, 105, 115, 111] = [46, 105, 115, 111] ∧ extOf [97, 98] = [] ∧
    dkeyName [71, 46, 105, 115, 111] = [71, 46, 100, 107, 101, 121] := ⟨rfl, rfl, rfl⟩

/-- the watermark test: encrypted watermark ⇒ the 16 bytes after it are the key; decrypted
    watermark ⇒ masked pass-through; anything else ⇒ not 3k3y. A file that ends inside the area is
    still recognised as long as it holds the watermark (and, for the encrypted form, the key); one that
    ends before the watermark is complete is not. -/
theorem short_file_not_3k3y (rd : Nat → Nat → Bytes) (h : (rd maskBegin Gen.fs__3k3yMaskedDataSize).length < 16) :
    test3k3y rd = .no := by
  simp [test3k3y, h]

theorem watermark_in_short_file (rd : Nat → Nat → Bytes)
    (hl : 16 ≤ (rd maskBegin Gen.fs__3k3yMaskedDataSize).length)
    (hw : (rd maskBegin Gen.fs__3k3yMaskedDataSize).take 16 = Gen.fs__3k3yDecWatermark.map UInt8.ofNat) :
    test3k3y rd = .dec := by
  have hne : Gen.fs__3k3yDecWatermark.map UInt8.ofNat ≠ Gen.fs__3k3yEncWatermark.map UInt8.ofNat := by decide
  simp [test3k3y, Nat.not_lt.mpr hl, hw, hne]

theorem watermarks : Gen.fs__3k3yEncWatermark = [0x44, 0x6E, 0x63, 0x72, 0x79, 0x70, 0x74, 0x65, 0x64, 0x20, 0x33, 0x4B, 0x20, 0x42, 0x4C, 0x44] ∧
    Gen.fs__3k3yDecWatermark = [0x45, 0x6E, 0x63, 0x72, 0x79, 0x70, 0x74, 0x65, 0x64, 0x20, 0x33, 0x4B, 0x20, 0x42, 0x4C, 0x44] ∧
    maskBegin = 0xF70 ∧ maskEnd = 0x1070 := by decide

/-- the 3k3y mask is an overlay of zeros over `[maskBegin, maskEnd)` -/
theorem mask3k3y_eq_applyOverlay (data : Bytes) (off : Nat) :
    mask3k3y data off = Content.applyOverlay off data ⟨maskBegin, zeros (maskEnd - maskBegin)⟩ := by
  unfold mask3k3y Content.applyOverlay
  dsimp only
  rw [Nat.max_comm off, Nat.min_comm (off + data.length), zeros_length, Proof.Slice.slice_zeros,
    show maskBegin + (maskEnd - maskBegin) = maskEnd from rfl]
  split
  · congr 3
    rw [Nat.sub_sub_sub_cancel_right (Nat.le_max_left ..), Nat.min_eq_left (Nat.sub_le_sub_right (Nat.min_le_left ..) _)]
  · rfl

/-- **The mask is exact**: through the 3k3y view, any read of any range returns the underlying
    bytes with exactly the positions `[0xF70, 0x1070)` zeroed — also when the read starts inside the area. -/
theorem mask_exact (data : Bytes) (off i : Nat) :
    (mask3k3y data off)[i]? =
      if i < data.length then (if 0xF70 ≤ off + i ∧ off + i < 0x1070 then some 0 else data[i]?) else none := by
  rw [mask3k3y_eq_applyOverlay, Content.applyOverlay_getElem?]
  dsimp only
  rw [zeros_length, zeros, List.getElem?_replicate, show maskBegin = 3952 from rfl, show maskEnd = 4208 from rfl]
  split
  · split
    · rw [if_pos (by omega)]
    · rfl
  · rfl

/-- Every other file is passed through byte-identically: no wrapper at all is selected when no key
    applies and no watermark is present. -/
theorem plain_passthrough (w : World) (p q : Path) (i : Nat) (f : Inode)
    (hs : w.stat p = some (q, .file i)) (hf : w.inode? i = some f)
    (hk : redumpKey w p = .notFound) (hm : test3k3y (fileRd f) = .no) : wrapFile w p = none := by
  simp [wrapFile, hs, hf, hk, hm]

/-- Directories never get a wrapper. -/
theorem dir_passthrough (w : World) (p q : Path) (mt : Nat) (hs : w.stat p = some (q, .dir mt)) : wrapFile w p = none := by
  simp [wrapFile, hs]

/-- A file opened for writing never goes through the wrapper selection: CREATE_FILE does not
    consult `cfg.wrap` at all (two configurations that differ only in `wrap` behave alike). -/
theorem write_open_ignores_wrappers (aw : Bool) (wrap1 wrap2 : World → Path → Option (Option StaticView))
    (w : World) (st : State) (raw : Bytes) :
    (step ⟨aw, wrap1⟩ w st (.createFile raw)).1 = (step ⟨aw, wrap2⟩ w st (.createFile raw)).1 ∧
    (step ⟨aw, wrap1⟩ w st (.createFile raw)).2.2.bytes = (step ⟨aw, wrap2⟩ w st (.createFile raw)).2.2.bytes :=
  ⟨rfl, rfl⟩

/-- An invalid region table, with a key that applies, makes the open fail (never a garbled view). -/
theorem bad_table_open_fails (w : World) (p q : Path) (i : Nat) (f : Inode) (k : Bytes)
    (hs : w.stat p = some (q, .file i)) (hf : w.inode? i = some f)
    (hk : redumpKey w p = .key k) (ht : parseTable (fileRd f) = none) : wrapFile w p = some none := by
  simp [wrapFile, hs, hf, hk, ht]

end Ps3.Props.C11
