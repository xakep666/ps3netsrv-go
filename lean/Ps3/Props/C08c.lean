/-
  C08 (third part) — what a reader gets back: its walk over a directory extent or a path table returns exactly the
  records written (round trips, `directory_reads_back`); the fields of a volume descriptor as segments (`descSegs`,
  `desc_field`), the root record in the descriptors.
-/
import Ps3.Proof.IsoDir
import Ps3.Proof.BuildWF
namespace Ps3.Props.C08
open Ps3.Viso Ps3.Spec.IsoDir

/-- **decode ∘ encode = id**: whatever list of records the generator writes into a directory extent
    (with the sector-gap rule and the zero padding of the last sector), an ISO 9660 reader walking that
    extent gets back exactly those records — same order, locations, lengths, times, flags, identifiers. -/
theorem records_roundtrip (rs : List DirRec) (hok : ∀ r ∈ rs, RecOk r) : decodeRecs (encodeRecs rs) = rs := by
  simp only [decodeRecs, encodeRecs, foldl_encodeFrom rs (fun r hr => record_length r (hok r hr).time) [], List.nil_append,
    List.length_nil]
  exact decode_encodeFrom rs hok 0 _ _ (by simp only [List.length_append]; omega)

/-- the records of every directory of a generated image are within what a record can carry, as long
    as locations and lengths fit 32 bits (an image below 8 TiB) -/
theorem finalRecs_ok {items : List DirItem} {rootLen : Nat} {joliet : Bool} {dirLBA filesLBA k : Nat} {it : DirItem}
    (hfit : ∀ r ∈ finalRecs items rootLen joliet dirLBA filesLBA k it, r.extLoc < 2 ^ 32 ∧ r.extLen < 2 ^ 32) :
    ∀ r ∈ finalRecs items rootLen joliet dirLBA filesLBA k it, RecOk r := by
  intro r hr
  have h1 : (1 : Nat) ≤ 221 := by decide
  have h2 : (2 : Nat) < 256 := by decide
  have ⟨hid, hfl⟩ : r.ident.length ≤ 221 ∧ r.flags < 256 := by
    refine Proof.Recs.forall_mem_finalRecs (P := fun r => r.ident.length ≤ 221 ∧ r.flags < 256)
      ⟨h1, h2⟩ (fun _ _ _ => ⟨h1, h2⟩) ?_ (fun _ _ _ _ => ⟨identifier_fits _ _, h2⟩) r hr
    intro f _ r hr
    obtain ⟨_, hid, _, _, _, hfl⟩ := Proof.Recs.shape_of_mem_fileRecs hr
    refine ⟨hid ▸ identifier_fits _ _, ?_⟩
    rcases hfl with ⟨hf, _⟩ | ⟨hf, _⟩ <;> rw [hf] <;> decide
  exact ⟨Proof.Recs.finalRecs_time r hr, hid, (hfit r hr).1, (hfit r hr).2, hfl⟩

/-- **decode ∘ encode = id for path tables**, both byte orders: read with the size the volume descriptor
    announces, a path table yields exactly the entries (location, parent number, identifier) written. -/
theorem path_table_roundtrip (t : List PtEntry) (hok : ∀ e ∈ t, PtOk e) (big : Bool) :
    decodePt (encodePt t big) (t.map (fun e => (e.encode big).length)).sum big = t := by
  -- every entry takes at least one byte, so one unit of fuel per byte is enough
  have walk : ∀ fuel, ((t.map (fun e => e.encode big)).flatten).length < fuel →
      decodePtAux fuel (t.map (fun e => e.encode big)).flatten big = t := by
    induction t with
    | nil => intro fuel _; cases fuel <;> rfl
    | cons e rest ih =>
      obtain ⟨he, hrest⟩ := List.forall_mem_cons.mp hok
      intro fuel hf
      rw [List.map_cons, List.flatten_cons] at hf ⊢
      cases fuel with
      | zero => cases hf
      | succ f =>
        rw [decodePtAux, parsePt_encode e he big]
        simp only [List.drop_left']
        rw [ih hrest f]
        rw [List.length_append, ptEntry_encode_length] at hf
        omega
  have hbody : ((t.map (fun e => e.encode big)).flatten).length = (t.map (fun e => (e.encode big).length)).sum :=
    Proof.Seg.sum_length_flatten (List.map_map ..)
  unfold decodePt encodePt
  dsimp only
  rw [← hbody, List.take_left' rfl]
  exact walk _ (Nat.lt_succ_self _)

/-- **A reader that follows a directory's location reads that directory's records.** Cut out of the generated image the
    extent that the records of directory `k` name for it (`dirLoc`, `dirLen` — its own '.', its parent's entry for it, its
    path table entry: all equal by the link theorems) and walk it as an ISO 9660 reader does: the result is exactly the
    record list the layout computed for directory `k`. (Locations and lengths must fit 32 bits: image below 8 TiB.) -/
theorem directory_reads_back (w : World) (root : Path) (ps3 : Bool) (clk : Clock) (filler : Bytes) (L : Layout)
    (hL : layoutOf w root ps3 = some L) (joliet : Bool) (k : Nat) (it : DirItem) (hk : L.items[k]? = some it)
    (hfit : ∀ r ∈ finalRecs L.items L.rootLen joliet (if joliet then L.jolietLBA else L.isoLBA) L.filesLBA k it,
      r.extLoc < 2 ^ 32 ∧ r.extLen < 2 ^ 32) :
    decodeRecs (slice (metaBytes L ps3 clk filler)
        (dirLoc L.items joliet (if joliet then L.jolietLBA else L.isoLBA) k * sectorSize) (dirLen L.items joliet k)) =
      finalRecs L.items L.rootLen joliet (if joliet then L.jolietLBA else L.isoLBA) L.filesLBA k it := by
  have h := Proof.BuildWF.dir_at_its_location (Proof.BuildWF.layoutOf_facts hL) (ps3 := ps3) (clk := clk) (filler := filler)
    (joliet := joliet) hk []
  rw [List.append_nil] at h
  exact (congrArg decodeRecs h).trans (records_roundtrip _ (finalRecs_ok hfit))

theorem rootRecOf_eq (L : Layout) (joliet : Bool) (D : Nat) (it : DirItem) (h0 : L.items[0]? = some it) :
    rootRecOf (L.recsOf joliet D) = ⟨dirLoc L.items joliet D 0, dirLen L.items joliet 0, recTime it.mtime, 2, [0]⟩ := by
  unfold rootRecOf
  rw [List.head?_eq_getElem?, Proof.BuildWF.recsOf_getElem?, h0]
  rfl

/-- a volume descriptor up to and including its root directory record, field by field (ECMA-119 8.4): the fields of
    `descBodyPre` written once more; `desc_field` ties the two -/
def descSegs (typ : Nat) (joliet : Bool) (volumeName : Bytes) (volSectors ptBytes lLoc mLoc : Nat) (rootRec : DirRec) :
    List Bytes :=
  [descHeader typ, [0], padTo (mangleUpper Gen.fs_aCharacters [108, 105, 110, 117, 120] joliet) 32 32,
   padTo ((mangleUpper Gen.fs_dCharacters volumeName joliet).take 32) 32 32, zeros 8, lsbmsb 4 volSectors,
   padTo (if joliet then [37, 47, 64] else []) 32 0, lsbmsb 2 1, lsbmsb 2 1, lsbmsb 2 sectorSize, lsbmsb 4 ptBytes,
   leN 4 lLoc, leN 4 0, beN 4 mLoc, beN 4 0, padTo rootRec.encode 34 0]

/-- the widths of `descSegs`; their prefix sums are the byte positions of ECMA-119 8.4 (the 16th piece, the root
    directory record, starts at 156) -/
def descLens : List Nat := [7, 1, 32, 32, 8, 8, 32, 4, 4, 4, 8, 4, 4, 4, 4, 34]

theorem descSegs_lens {typ : Nat} {joliet : Bool} {volumeName : Bytes} {volSectors ptBytes lLoc mLoc : Nat}
    {rootRec : DirRec} (hr : rootRec.encode.length ≤ 34) :
    (descSegs typ joliet volumeName volSectors ptBytes lLoc mLoc rootRec).map List.length = descLens := by
  have hj : (if joliet then ([37, 47, 64] : Bytes) else []).length ≤ 32 := by cases joliet <;> simp
  simp only [descSegs, descLens, List.map_cons, List.map_nil, Proof.BuildWF.descHeader_length, List.length_cons,
    List.length_nil, zeros_length, lsbmsb_length, leN_length, beN_length,
    padTo_length (Proof.BuildWF.linux_length_le joliet), padTo_length (List.length_take_le _ _),
    padTo_length hj, padTo_length hr]

theorem desc_field {typ : Nat} {joliet : Bool} {volumeName : Bytes} {volSectors ptBytes lLoc mLoc : Nat}
    {rootRec : DirRec} {clk : Clock} (hr : rootRec.encode.length ≤ 34) (k : Nat) {x : Bytes}
    (hk : (descSegs typ joliet volumeName volSectors ptBytes lLoc mLoc rootRec)[k]? = some x) {off n : Nat}
    (hoff : (descLens.take k).sum = off) (hn : descLens[k]? = some n) :
    slice (volumeDescriptor typ joliet volumeName volSectors ptBytes lLoc mLoc rootRec clk) off n = x := by
  obtain ⟨rest, h⟩ : ∃ rest, volumeDescriptor typ joliet volumeName volSectors ptBytes lLoc mLoc rootRec clk =
      (descSegs typ joliet volumeName volSectors ptBytes lLoc mLoc rootRec).flatten ++ rest := by
    apply Exists.intro
    unfold volumeDescriptor descBodyPre
    -- only the outer padding is opened: the padded fields stay whole segments
    rw [show ∀ s : Bytes, padTo s (sectorSize - 7) 0 = s ++ List.replicate (sectorSize - 7 - s.length) 0 from fun _ => rfl]
    simp only [descSegs, List.flatten_cons, List.flatten_nil, List.append_nil, List.append_assoc]
    rfl
  rw [h]
  exact Proof.Seg.seg_at (descSegs_lens hr) k hk hoff hn rest

/-- **The volume descriptor's root directory record (bytes 156..189)** is the record it was given: with
    `descriptors_point_to_root` below, the '.' record of the root directory. -/
theorem descriptor_root_record {typ : Nat} {joliet : Bool} {volumeName : Bytes} {volSectors ptBytes lLoc mLoc : Nat}
    {rootRec : DirRec} {clk : Clock} (hr : rootRec.encode.length = 34) :
    slice (volumeDescriptor typ joliet volumeName volSectors ptBytes lLoc mLoc rootRec clk) 156 34 = rootRec.encode := by
  rw [desc_field (Nat.le_of_eq hr) 15 rfl (by decide) rfl]
  simp [padTo, hr]

/-- … and for the descriptors of a generated image that record is the '.' record of directory 0 of the
    respective hierarchy: a reader starting from sector 16 / 17 is sent to where the root directory is -/
theorem descriptors_point_to_root (L : Layout) (clk : Clock) (it : DirItem) (h0 : L.items[0]? = some it) :
    slice (pvdOf L clk) 156 34 = (DirRec.encode ⟨dirLoc L.items false L.isoLBA 0, dirLen L.items false 0, recTime it.mtime, 2, [0]⟩) ∧
    slice (svdOf L clk) 156 34 = (DirRec.encode ⟨dirLoc L.items true L.jolietLBA 0, dirLen L.items true 0, recTime it.mtime, 2, [0]⟩) := by
  rw [pvdOf, svdOf, rootRecOf_eq L false L.isoLBA it h0, rootRecOf_eq L true L.jolietLBA it h0]
  exact ⟨descriptor_root_record Proof.BuildWF.dot_encode_length,
    descriptor_root_record Proof.BuildWF.dot_encode_length⟩

end Ps3.Props.C08
