/-
  C19 — Every setting works via flag, environment and INI file; flags win.
  The theorems are about `effective` (the repository's wiring under kong's rules, `KongSem`); that
  the real binary behaves so is observed by the black-box stream, for all six channels.
-/
import Ps3.Model.Config
namespace Ps3.Props.C19
open Ps3.Config

/-- **A command-line flag always wins**: whatever the configuration files and (valid) environment
    say, the effective value is the flag's. -/
theorem flag_wins (as : List Assign) (s : String) (t : Tag) (ht : t ≠ .X)
    (hf : lookup as s .flag = some t) (henv : lookup as s .env ≠ some .X) :
    effective as s = .ok (.val t) := by
  cases t <;> simp_all [effective]

/-- A value given through the environment alone is the effective value. -/
theorem env_alone_effective (as : List Assign) (s : String) (t : Tag) (ht : t ≠ .X)
    (he : lookup as s .env = some t) (hf : lookup as s .flag = none) (hfiles : fromFiles as s = none) :
    effective as s = .ok (.val t) := by
  cases t <;> simp_all [effective]

/-- A value given in a configuration file alone (any of the locations) is the effective value —
    also when the environment gives another one: files take precedence over the environment. -/
theorem file_effective (as : List Assign) (s : String) (t : Tag) (ht : t ≠ .X)
    (hfile : fromFiles as s = some t) (hf : lookup as s .flag = none) (henv : lookup as s .env ≠ some .X) :
    effective as s = .ok (.val t) := by
  cases t <;> simp_all [effective]

/-- among the files: the file named by --config beats ./config.ini and the user directory … -/
theorem cfgflag_file_first (as : List Assign) (s : String) (t : Tag)
    (h : lookup as s .cfgflag = some t) : fromFiles as s = some t := by
  simp [fromFiles, h]

/-- … the file named by PS3NETSRV_CONFIG_FILE does so too when no --config is given … -/
theorem cfgenv_file_first (as : List Assign) (s : String) (t : Tag)
    (hno : as.any (fun a => a.ch == Channel.cfgflag) = false)
    (h : lookup as s .cfgenv = some t) : fromFiles as s = some t := by
  -- no assignment comes from --config at all, so none for `s` does
  have h0 : lookup as s .cfgflag = none := by
    simp only [lookup, Option.map_eq_none_iff, List.find?_eq_none]
    intro a ha
    simpa using fun _ => List.any_eq_false.mp hno a ha
  simp [fromFiles, h0, hno, h]

/-- … ./config.ini beats the user directory … -/
theorem cwdini_before_userini (as : List Assign) (s : String) (t : Tag)
    (h1 : lookup as s .cfgflag = none) (h2 : lookup as s .cfgenv = none)
    (h : lookup as s .cwdini = some t) : fromFiles as s = some t := by
  simp [fromFiles, h1, h2, h]

/-- … and the user directory is used when nothing else has the key. -/
theorem userini_last (as : List Assign) (s : String)
    (h1 : lookup as s .cfgflag = none) (h2 : lookup as s .cfgenv = none)
    (h3 : lookup as s .cwdini = none) : fromFiles as s = lookup as s .userini := by
  simp [fromFiles, h1, h2, h3]

/-- with nothing given, the default applies -/
theorem nothing_given_default (s : String) : effective [] s = .ok .dflt := rfl

/-- **Invalid values fail closed**: a malformed value in the channel that would win stops start-up
    instead of falling back to another channel or to the default … -/
theorem invalid_flag_stops (as : List Assign) (s : String) (hf : lookup as s .flag = some .X) :
    effective as s = .error () := by
  simp [effective, hf]

theorem invalid_file_stops (as : List Assign) (s : String) (hf : lookup as s .flag = none)
    (hfile : fromFiles as s = some .X) : effective as s = .error () := by
  simp [effective, hf, hfile]

/-- … and a malformed environment variable stops start-up even when a flag overrides it. -/
theorem invalid_env_stops (as : List Assign) (s : String) (he : lookup as s .env = some .X) :
    effective as s = .error () := by
  simp [effective, he]

theorem mapM_error {α β : Type} (f : α → Except Unit β) (a : α) (h : f a = .error ()) :
    ∀ l : List α, a ∈ l → l.mapM f = .error ()
  | x :: rest, hm => by
    rw [List.mapM_cons]
    rcases List.mem_cons.mp hm with rfl | h'
    · rw [h]; rfl
    · rw [mapM_error f a h rest h']; cases f x <;> rfl

/-- one failing setting is enough to stop start-up -/
theorem any_invalid_stops_startup (as : List Assign) (s : String) (hs : s ∈ settings)
    (he : effective as s = .error ()) : effectiveAll as = .error () :=
  mapM_error _ s (by rw [he]; rfl) settings hs

/-- non-vacuity: the README's example — whitelist in the file, overridden by a flag -/
example : effective [⟨"client-whitelist", .cwdini, .A⟩, ⟨"client-whitelist", .flag, .B⟩, ⟨"max-clients", .env, .A⟩] "client-whitelist"
    = .ok (.val .B) ∧
    effective [⟨"client-whitelist", .cwdini, .A⟩, ⟨"max-clients", .env, .A⟩] "max-clients" = .ok (.val .A) :=
  ⟨rfl, rfl⟩

end Ps3.Props.C19
