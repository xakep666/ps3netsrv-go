/-
  C16 — Idle connections are cut after the read timeout, active ones never.
  Timed model of the serveConn loop; real timers and TCP are observed by the differential.
-/
import Ps3.Model.Timeout
namespace Ps3.Props.C16
open Ps3.Timeout Ps3.Proto

theorem decodeT_nil : decodeT [] = .incomplete := rfl

/-- a buffer holding exactly one request, under the fuel `simulate` gives the loop -/
theorem consume_one {bytes : Bytes} {r : Req} (n : Nat) (h : decodeT bytes = .req r []) :
    consume (bytes.length + 1) bytes n = ([], n + 1) := by
  cases bytes with
  | nil => cases h
  | cons b bs => simp [consume, h, decodeT_nil]

/-- **An idle connection is cut at its deadline**: silent (or sending only an incomplete request, which
    does not re-arm the timer) after k answered requests, it is cut exactly T after the last loop top. -/
theorem idle_after_partial (T t loopTop n : Nat) (buf : Bytes) (hT : T ≠ 0) :
    simulate T true [] t loopTop buf n = ⟨n, some (loopTop + T)⟩ := by
  simp [simulate, hT]

/-- bytes that arrive after the deadline are never processed: the connection is already gone -/
theorem late_bytes_not_served (T t loopTop n : Nat) (buf : Bytes) (c : Chunk) (rest : List Chunk) (hT : T ≠ 0)
    (hlate : t + c.delay ≥ loopTop + T) :
    simulate T true (c :: rest) t loopTop buf n = ⟨n, some (loopTop + T)⟩ := by
  simp [simulate, hT, hlate]

/-- one pass of the loop: a chunk that holds exactly one request and arrives before the deadline `lt + T` is
    answered, and the deadline is counted from its arrival -/
theorem simulate_one {T t lt n : Nat} {c : Chunk} {rest : List Chunk} {r : Req}
    (hlive : t + c.delay < lt + T) (hr : decodeT c.bytes = .req r []) :
    simulate T true (c :: rest) t lt [] n = simulate T true rest (t + c.delay) (t + c.delay) [] (n + 1) := by
  have hl : (T != 0 && decide (t + c.delay ≥ lt + T)) = false := by simp; omega
  rw [simulate, hl, List.nil_append, List.length_nil, Nat.zero_add, consume_one n hr]
  simp only [Bool.false_eq_true, if_false, Nat.lt_add_one, decide_true, Bool.and_true, if_true]

/-- **An active connection is never cut**: if every request arrives complete and less than T after
    the previous one (the first less than T after connect), then — however many requests, however
    long the connection lives — all of them are answered, and the connection is cut only T after
    the last one. -/
theorem active_never_cut (T : Nat) (hT : T ≠ 0) :
    ∀ (cs : List Chunk) (t n : Nat),
      (∀ c ∈ cs, c.delay < T ∧ ∃ r, decodeT c.bytes = .req r []) →
      simulate T true cs t t [] n = ⟨n + cs.length, some (t + (cs.map (·.delay)).sum + T)⟩ := by
  intro cs
  induction cs with
  | nil => intro t n _; exact idle_after_partial T t t n [] hT
  | cons c rest ih =>
    intro t n h
    obtain ⟨⟨hd, r, hr⟩, h⟩ := List.forall_mem_cons.mp h
    rw [simulate_one (Nat.add_lt_add_left hd t) hr, ih _ _ h]
    simp +arith

/-- the server as written arms the deadline inside the request loop (F-shape fact `Gen.server_armInLoop`, read off
    `serveConn`: were the call moved out of the loop, this and the next theorem would fail) -/
theorem server_rearms (T : Nat) (cs : List Chunk) : run T cs = simulate T true cs 0 0 [] 0 := by
  simp [run, Gen.server_armInLoop]

/-- … so `active_never_cut` holds of the server itself (`run`) -/
theorem server_active_never_cut (T : Nat) (hT : T ≠ 0) (cs : List Chunk)
    (h : ∀ c ∈ cs, c.delay < T ∧ ∃ r, decodeT c.bytes = .req r []) :
    run T cs = ⟨cs.length, some ((cs.map (·.delay)).sum + T)⟩ := by
  rw [server_rearms, active_never_cut T hT cs 0 0 h]
  simp

/-- a connection that stays silent after connect is cut at T -/
theorem idle_after_connect (T : Nat) (hT : T ≠ 0) : run T [] = ⟨0, some T⟩ := by
  simp [run, simulate, hT]

/-- no timeout configured: never cut -/
theorem no_timeout_never_cut (cs : List Chunk) (t lt n : Nat) (buf : Bytes) :
    (simulate 0 true cs t lt buf n).cutAt = none := by
  induction cs generalizing t lt n buf with
  | nil => rfl
  | cons c rest ih => rw [simulate]; exact ih ..

/-- **The re-arming matters**: with the deadline armed only once per connection instead of at the
    top of every iteration, an active client (two STAT "/" requests 0.6 T apart, T = 1000) would be
    cut at T although it is not idle. -/
theorem rearm_needed :
    let stat : Bytes := [0x12, 0x30, 0, 1, 0, 0, 0, 0, 0, 0, 0, 0, 0, 0, 0, 0, 47]
    (simulate 1000 true [⟨600, stat⟩, ⟨600, stat⟩] 0 0 [] 0 = ⟨2, some 2200⟩) ∧
    (simulate 1000 false [⟨600, stat⟩, ⟨600, stat⟩] 0 0 [] 0 = ⟨1, some 1000⟩) := by
  decide

/-- writes that each complete within the deadline are counted and passed over: whether the connection is cut is
    decided by `rest` (`[]`: never; a stalled `g :: _`: there) -/
theorem writeOut_pass (T : Nat) {before : List Nat} (h : ∀ x ∈ before, T = 0 ∨ x < T) (rest : List Nat) :
    writeOut T (before ++ rest) = ((writeOut T rest).1 + before.length, (writeOut T rest).2) := by
  induction before with
  | nil => rfl
  | cons b bs ih =>
    obtain ⟨hb, h⟩ := List.forall_mem_cons.mp h
    have hlive : (T != 0 && decide (b ≥ T)) = false := by simp; omega
    rw [List.cons_append, writeOut, hlive, ih h]
    rfl

/-- **A client that stops reading is cut**: as soon as one write of a response stays blocked for T,
    the connection ends — like a silent client, it cannot hold the connection and its files. -/
theorem stalled_reader_cut (T : Nat) (hT : T ≠ 0) (before after : List Nat) (g : Nat) (hg : g ≥ T)
    (hb : ∀ x ∈ before, x < T) :
    writeOut T (before ++ g :: after) = (before.length, true) := by
  rw [writeOut_pass T fun x m => .inr (hb x m)]
  simp [writeOut, hT, hg]

/-- **A client that keeps draining is never cut, however long the response takes in total**: the
    deadline is per write, not per response (a response may take many multiples of T). -/
theorem draining_reader_never_cut (T : Nat) (gaps : List Nat) (h : ∀ x ∈ gaps, x < T) :
    writeOut T gaps = (gaps.length, false) := by
  simpa [writeOut] using writeOut_pass T (fun x m => .inr (h x m)) []

theorem no_timeout_write_never_cut (gaps : List Nat) : writeOut 0 gaps = (gaps.length, false) := by
  simpa [writeOut] using writeOut_pass 0 (before := gaps) (fun _ _ => .inl rfl) []

/-- non-vacuity: 3 quick writes, then a stall of 2T; and 1000 slow-but-draining writes (270 s in total, 900 T) -/
example : writeOut 300 [0, 5, 0, 600, 0] = (3, true) ∧
    writeOut 300 (List.replicate 1000 270) = ((List.replicate 1000 270).length, false) :=
  ⟨rfl, draining_reader_never_cut _ _ fun _ h => List.eq_of_mem_replicate h ▸ by decide⟩

end Ps3.Props.C16
