/-
  C06 — Directory listing, stat and dir-size report the true tree.
-/
import Ps3.Model.Conn
namespace Ps3.Props.C06
open Ps3.Conn Ps3.Proto

/-- what an enumeration of directory `named` must report: every name whose Stat succeeds
    (symlinks resolved, dangling ones omitted), each with its resolved kind, size and mtime -/
def listing (w : World) (named : Path) (names : List Name) : List Info :=
  names.filterMap (fun n => statInfo w (named ++ [n]))

/-- OPEN_DIR succeeds exactly for existing directories. -/
theorem opendir_iff_dir (cfg : Cfg) (w : World) (st : State) (raw : Bytes) :
    (step cfg w st (.openDir raw)).2.2.bytes = openDirResult true ↔
      ∃ q, openRO cfg w (PathStr.cleanRequest raw) = some (.dir q) := by
  simp only [step]
  have hne : openDirResult false ≠ openDirResult true := by decide
  split <;> simp_all

/-- a successful OPEN_DIR starts a fresh enumeration of that directory -/
theorem opendir_fresh (cfg : Cfg) (w : World) (st : State) (raw : Bytes) (q : Path)
    (h : openRO cfg w (PathStr.cleanRequest raw) = some (.dir q)) :
    ((step cfg w st (.openDir raw)).2.1.cwd.map (fun h => (h.real, h.named, h.remaining))) =
      some (q, PathStr.cleanRequest raw, none) := by
  simp [step, h]

theorem listing_eq_nextEntry (w : World) (named : Path) (names : List Name) :
    listing w named names = match nextEntry w named names with
      | none => []
      | some (i, rest) => i :: listing w named rest := by
  fun_induction nextEntry w named names with
  | case1 => rfl
  | case2 n tl i hs => simp [listing, hs]
  | case3 n tl hs ih => simpa [listing, hs] using ih

/-- One step of the entry-by-entry enumeration (either command): the next entry still to be reported, and only it, is
    sent and removed from the cursor; when none remains the end marker is sent and the directory is closed. -/
theorem enumerate_step (cfg : Cfg) (w : World) (st : State) (h : DirHandle) (hc : st.cwd = some h) (v2 : Bool) :
    let names := h.remaining.getD (dirNames w h.real)
    let r := step cfg w st (if v2 then .readDirEntryV2 else .readDirEntry)
    let enc := if v2 then readDirEntryV2Result else readDirEntryResult
    (listing w h.named names = [] → r.2.2.bytes = enc none ∧ r.2.1.cwd = none) ∧
    (∀ i tl, listing w h.named names = i :: tl →
      r.2.2.bytes = enc (some i) ∧
      ∃ h', r.2.1.cwd = some h' ∧ h'.named = h.named ∧ h'.real = h.real ∧
        listing w h'.named (h'.remaining.getD (dirNames w h'.real)) = tl) := by
  intro names r enc
  cases v2 <;> simp only [r, enc, names, step, hc, Bool.false_eq_true, if_false, if_true]
  all_goals
    rw [listing_eq_nextEntry]
    cases nextEntry w h.named (h.remaining.getD (dirNames w h.real)) <;> simp

/-- After the end marker the enumeration stays at the end marker. -/
theorem enumerate_after_end (cfg : Cfg) (w : World) (st : State) (hc : st.cwd = none) :
    (step cfg w st .readDirEntry).2.2.bytes = readDirEntryResult none ∧
    (step cfg w st .readDirEntryV2).2.2.bytes = readDirEntryV2Result none ∧
    (step cfg w st .readDirEntry).2.1.cwd = none ∧ (step cfg w st .readDirEntryV2).2.1.cwd = none := by
  simp [step, hc]

/-- The bulk listing reports exactly the not-yet-enumerated entries of the open directory. -/
theorem readdir_exact (cfg : Cfg) (w : World) (st : State) (h : DirHandle) (hc : st.cwd = some h) :
    (step cfg w st .readDir).2.2.bytes =
      readDirResult (listing w h.named (h.remaining.getD (dirNames w h.real))) := by
  simp [step, hc, listing]

/-- Every reported entry carries the true kind, size (0 for directories) and mtime of the object
    the name resolves to. -/
theorem info_true (w : World) (p : Path) (i : Info) (h : statInfo w p = some i) :
    ∃ q n, w.stat p = some (q, n) ∧
      match n with
      | .file ino => ∃ f, w.inode? ino = some f ∧ i.isDir = false ∧ i.size = f.content.size ∧ i.mtime = f.mtime
      | .dir mt => i.isDir = true ∧ i.size = 0 ∧ i.mtime = mt
      | _ => False := by
  unfold statInfo at h
  split at h
  · cases h
  · split at h
    · cases h
    · next q n hst =>
      refine ⟨_, n, hst, ?_⟩
      cases n with
      | file ino =>
        obtain ⟨f, hf, rfl⟩ := Option.map_eq_some_iff.mp h
        exact ⟨f, hf, rfl, rfl, rfl⟩
      | dir mt => cases h; exact ⟨rfl, rfl, rfl⟩
      | _ => cases h

/-- STAT answers −1 exactly when the path does not resolve. -/
theorem stat_exact (cfg : Cfg) (w : World) (st : State) (raw : Bytes) :
    (step cfg w st (.statFile raw)).2.2.bytes = statFileResult (statInfo w (PathStr.cleanRequest raw)) := by
  simp [step]

theorem dirsize_not_dir {cfg : Cfg} {w : World} {st : State} {raw : Bytes}
    (h : ∀ q mt, w.stat (PathStr.cleanRequest raw) ≠ some (q, .dir mt)) :
    step cfg w st (.getDirSize raw) = (w, st, ⟨getDirSizeResult (neg1 8), false⟩) := by
  simp only [step]
  split
  · rename_i q mt heq
    split at heq
    · exact absurd heq (h q mt)
    · cases heq
  · rfl

/-- Dir-size of a regular file is its size; of a directory, the sum over its entries (recursively). -/
theorem dirsize_unfold (w : World) (fuel : Nat) (p : Path) :
    walkSize w (fuel + 1) p =
      match w.stat p with
      | none => 0
      | some (_, .file i) => ((w.inode? i).map (·.content.size)).getD 0
      | some (q, .dir _) => ((dirNames w q).map (fun n => walkSize w fuel (p ++ [n]))).sum
      | some _ => 0 := rfl

/-- Dir-size of an existing directory is the total size of the regular files beneath it … -/
theorem dirsize_exact (cfg : Cfg) (w : World) (st : State) (raw : Bytes) (q : Path) (mt : Nat)
    (hn : (PathStr.cleanRequest raw).all nameOk = true)
    (hd : w.stat (PathStr.cleanRequest raw) = some (q, .dir mt)) :
    (step cfg w st (.getDirSize raw)).2.2.bytes =
      getDirSizeResult (walkSize w dirSizeFuel (PathStr.cleanRequest raw)) := by
  simp [step, hn, hd]

/-- … and −1 for a path that does not exist or is not a directory (never 0, never a file's size). -/
theorem dirsize_missing (cfg : Cfg) (w : World) (st : State) (raw : Bytes)
    (h : w.stat (PathStr.cleanRequest raw) = none) :
    (step cfg w st (.getDirSize raw)).2.2.bytes = getDirSizeResult (neg1 8) ∧
      (step cfg w st (.getDirSize raw)).2.2.close = false := by
  rw [dirsize_not_dir (by simp [h])]; exact ⟨rfl, rfl⟩

theorem dirsize_of_file (cfg : Cfg) (w : World) (st : State) (raw : Bytes) (q : Path) (i : Nat)
    (h : w.stat (PathStr.cleanRequest raw) = some (q, .file i)) :
    (step cfg w st (.getDirSize raw)).2.2.bytes = getDirSizeResult (neg1 8) := by
  rw [dirsize_not_dir (by simp [h])]

end Ps3.Props.C06
