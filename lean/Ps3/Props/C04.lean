/-
  C04 — No client input and no on-disk content can crash the server.

  What a theorem can carry here: panic-freedom of the index/slice arithmetic that runs on
  attacker-chosen offsets, lengths and file contents (`Model/Checked.lean`: the Go code transcribed
  over Int with the runtime's bounds checks made explicit), boundedness of the count-driven
  allocation, and the guards in front of the fixed-width encoders. What it cannot carry — process
  survival, accepting, other connections, memory — is observed on the real binary by the stream.
-/
import Ps3.Model.Checked
import Ps3.Props.C08
import Ps3.Proof.Slice
namespace Ps3.Props.C04
open Ps3.Viso Ps3.Checked

theorem loopOk_of {len lo hi : Int} (h : hi ≤ lo ∨ (0 ≤ lo ∧ hi ≤ len)) : loopOk len lo hi = true := by
  simpa [loopOk] using h

theorem sliceOk_of {len lo hi : Int} (h : 0 ≤ lo ∧ lo ≤ hi ∧ hi ≤ len) : sliceOk len lo hi = true := by
  simp [sliceOk, h]

/-- `m` runs to completion (no fault) and its result satisfies `Q`. A proof follows the transcribed
    function: `.ite` at an `if`, `.guard` at a bounds check, `.ok` at a return. -/
def Safe {α} (m : M α) (Q : α → Prop) : Prop := ∃ r, m = .ok r ∧ Q r

section
variable {α : Type} {Q : α → Prop}

theorem Safe.ok {r : α} (h : Q r) : Safe (.ok r) Q := ⟨r, rfl, h⟩

theorem Safe.ite {c : Prop} [Decidable c] {a b : M α} (ht : c → Safe a Q) (hf : ¬ c → Safe b Q) :
    Safe (if c then a else b) Q := by
  split <;> simp_all

theorem Safe.guard {g : Bool} {e : Fault} {k : M α} (h : g = true) (hk : Safe k Q) :
    Safe (if !g then .error e else k) Q := by
  simpa [h] using hk

/-- the `if err != nil { return }` after a call whose Bool says "returned with an error". Stated for
    `RS` so that the `match` is the very matcher of the transcriptions and unifies with them. -/
theorem Safe.andThen {P : RS × Bool → Prop} {m : M (RS × Bool)} {stop go : RS → M α}
    (hm : Safe m P) (hs : ∀ s, P (s, true) → Safe (stop s) Q) (hg : ∀ s, P (s, false) → Safe (go s) Q) :
    Safe (match m with
      | .error e => .error e
      | .ok (s1, true) => stop s1
      | .ok (s1, false) => go s1) Q := by
  obtain ⟨⟨s1, b⟩, rfl, h⟩ := hm
  cases b
  · exact hg s1 h
  · exact hs s1 h

end

theorem size_le_padded (n : Nat) : (n : Int) ≤ (sectors n : Int) * S := by
  have := sectors_mul_ge n
  rw [sectorSize_eq] at this
  unfold S; omega

-- `0 ≤ remain` (it is `len(buf)`) is carried from `headPartC` on; the bound on the offset keeps it within the file's padded
-- end in `fileStepC`, which is what makes `toWrite ≥ 0` in `padPartC`
theorem dataPart_spec {cf : Nat → Content} {f : FileExt} {s : RS} {start : Int} (hr : 0 ≤ s.remain) :
    Safe (dataPartC cf f s start) fun r => 0 ≤ r.1.remain ∧ r.1.offset ≤ max s.offset (start + f.size) :=
  .ite (fun _ => .guard (sliceOk_of (by omega)) (.ite (fun _ => .ok ⟨hr, by dsimp only; omega⟩)
      fun _ => .guard (sliceOk_of (by omega)) (.ok ⟨by dsimp only; omega, by dsimp only; omega⟩)))
    fun _ => .ok ⟨hr, by dsimp only; omega⟩

theorem padPart_spec {f : FileExt} {s : RS} {fileEnd : Int} (hr : 0 ≤ s.remain) (ho : s.offset ≤ fileEnd) :
    Safe (padPartC f s fileEnd) fun r => 0 ≤ r.1.remain :=
  .ite (fun _ => .guard (loopOk_of (by split <;> omega)) (.guard (sliceOk_of (by split <;> omega)) (.ok (by dsimp only; split <;> omega))))
    fun _ => .ok hr

theorem fileStep_spec {cf : Nat → Content} {f : FileExt} {s : RS} (hr : 0 ≤ s.remain) :
    Safe (fileStepC cf f s) fun r => 0 ≤ r.1.remain :=
  .ite (fun _ => .ok hr) fun _ => .ite (fun _ => .ok hr) fun _ =>
    .andThen (dataPart_spec hr) (fun _ h => .ok h.1) fun s1 ⟨hr1, ho1⟩ =>
      padPart_spec hr1 (by have := size_le_padded f.size; dsimp only at ho1; omega)

theorem filesLoop_spec {cf : Nat → Content} {fs : List FileExt} (s : RS) (hr : 0 ≤ s.remain) :
    Safe (filesLoopC cf fs s) fun r => 0 ≤ r.1.remain := by
  induction fs generalizing s with
  | nil => exact .ok hr
  | cons f rest ih =>
    exact .ite (fun _ => .ok hr) fun _ => .andThen (fileStep_spec hr) (fun _ h => .ok h) ih

theorem headPart_spec (img : Image) (off : Int) (n : Nat) (ho : 0 ≤ off) :
    Safe (headPartC img off n) fun s => 0 ≤ s.remain :=
  .ite (fun _ => .guard (sliceOk_of (by omega)) (.guard (sliceOk_of (by omega)) (.ok (by dsimp only; omega))))
    fun _ => .ok (by dsimp only; omega)

theorem filesPart_spec {img : Image} {cf : Nat → Content} {s : RS} (hr : 0 ≤ s.remain) :
    Safe (filesPartC img cf s) fun r => 0 ≤ r.1.remain :=
  .ite (fun _ => .ite (fun _ => .ok hr) fun _ => .ite (fun _ => .ok hr) fun _ => filesLoop_spec s hr)
    fun _ => .ok hr

theorem tailPart_spec {img : Image} {s : RS} : Safe (tailPartC img s) fun _ => True :=
  .ite (fun _ => .ite (fun _ => .ok trivial) fun _ => .guard (loopOk_of (by split <;> omega)) (.ok trivial))
    fun _ => .ok trivial

/-- **VirtualISO.read never panics**: for every image (well-formed or not), every content of the
    member files, every non-negative offset and every buffer length no slice or index expression
    of the function is out of range. -/
theorem read_never_faults (img : Image) (cf : Nat → Content) (off : Int) (n : Nat) (ho : 0 ≤ off) :
    ∃ r, readC img cf off n = .ok r := by
  suffices h : Safe (readC img cf off n) fun _ => True from h.imp fun _ h => h.1
  unfold readC
  refine .ite (fun _ => .ok trivial) fun _ => ?_
  obtain ⟨s1, hh, hr1⟩ := headPart_spec img off n ho
  rw [hh]
  exact .ite (fun _ => .ok trivial) fun _ =>
    .andThen (filesPart_spec hr1) (fun _ _ => .ok trivial) fun _ _ => tailPart_spec

/-- **ReadAt never panics, for any offset at all** (negative ones are refused before `read`; `Read`
    only ever passes the cursor, which `Seek` keeps non-negative). -/
theorem readAt_never_faults (img : Image) (cf : Nat → Content) (off : Int) (n : Nat) :
    ∃ r, readAtC img cf off n = .ok r := by
  unfold readAtC
  split
  · exact ⟨_, rfl⟩
  · exact read_never_faults img cf off n (by omega)

/-- non-vacuity: an in-range and a hostile geometry both run to completion -/
example : (readC ⟨[1, 2, 3], [], 2048, 4096, 6144⟩ (fun _ => ⟨0, 0, []⟩) 1 10000).isOk = true ∧
          (readC ⟨[1, 2, 3], [⟨0, 5, 9⟩], 2048, 1, 100000⟩ (fun _ => ⟨0, 0, []⟩) 2 99999).isOk = true := by
  decide

/-! ### in-place transformations -/

theorem clearRegions_never_faults (hdr start len : Int) (clear : Bool) :
    clearRegionsC hdr start len clear = .ok () := by
  unfold clearRegionsC
  split
  · rfl
  · exact if_pos (loopOk_of (by omega))

theorem decryptSector_ok {start len i : Int} (hl : 0 ≤ len)
    (h : start < (i + 1) * S ∧ i * S < start + len) : decryptSectorC start len i = .ok () := by
  unfold decryptSectorC S at *
  dsimp only
  split
  · exact if_pos (sliceOk_of (by omega))
  · rw [if_neg (by rw [sliceOk_of (by omega)]; decide),  -- data[from-start : to-start] lies within `len`
      if_neg (by rw [sliceOk_of (by omega)]; decide)]    -- sector[from-sectorStart : to-sectorStart] within `S`

/-- every sector decryptData visits, for every read position, length and region -/
theorem decrypt_never_faults (start len rs re i : Int) (hl : 0 ≤ len)
    (hlo : (decryptRange start len rs re).1 ≤ i) (hhi : i < (decryptRange start len rs re).2) :
    decryptSectorC start len i = .ok () := by
  refine decryptSector_ok hl ?_
  unfold decryptRange S at *
  dsimp only at hlo hhi
  omega

theorem clear3k3y_never_faults (b e start len : Int) :
    clear3k3yC b e start len = .ok () := by
  unfold clear3k3yC
  dsimp only
  split
  · rfl
  · exact if_pos (loopOk_of (by omega))

/-! ### count-driven allocation and guarded indexing (NewEncryptedISO) -/

/-- the region table's `make` is bounded by what fits one sector, whatever count the file declares -/
theorem table_alloc_bounded (rd : Nat → Nat → Bytes) (regs : List Crypt.Region) (h : Crypt.decodeTable rd = some regs) :
    regs.length ≤ 255 := by
  simp only [Crypt.decodeTable, Option.ite_none_left_eq_some, Option.some.injEq] at h
  obtain ⟨_, hc, _, rfl⟩ := h
  simpa using Nat.not_lt.mp (show ¬ _ > 255 from hc)

/-- `unencryptedRegions[0]` is only evaluated on a non-empty table -/
theorem index0_guarded (regs : List Crypt.Region) (h : Crypt.validRegs regs = true) : regs ≠ [] := by
  rintro rfl; simp [Crypt.validRegs] at h

/-! ### PARAM.SFO (sfoField): the lengths the file declares are bounded before anything is built from them -/

/-- a PARAM.SFO key is read through a 512-byte window: whatever the file holds, no key longer than
    that is ever built in memory -/
theorem sfo_key_bounded (b : Bytes) (off : Nat) (k : Bytes) (h : cstrAt b off = some k) : k.length < Gen.fs_sfoMaxKeyLen := by
  simp only [cstrAt, Option.ite_none_right_eq_some, Option.some.injEq] at h
  obtain ⟨hc, rfl⟩ := h
  -- `takeWhile` stops at the 0 the window holds, so it is strictly shorter than the window
  refine Nat.lt_of_lt_of_le ?_ (List.length_take_le Gen.fs_sfoMaxKeyLen (b.drop off))
  generalize (b.drop off).take Gen.fs_sfoMaxKeyLen = l at hc ⊢
  induction l with
  | nil => simp at hc
  | cons a t ih =>
    rw [List.takeWhile_cons]
    split
    · rename_i ha
      exact Nat.succ_lt_succ (ih (by simpa [Ne.symm (by simpa using ha)] using hc))
    · exact Nat.zero_lt_succ _

/-- **The value length a PARAM.SFO declares never drives memory use**: whatever the file declares and
    however large it is, the value `sfoField` returns is at most `sfoMaxValueLen` (64 KiB) long -/
theorem sfo_value_bounded (b field v : Bytes) (h : sfoField b field = some v) : v.length ≤ Gen.fs_sfoMaxValueLen := by
  simp only [sfoField, Option.ite_none_left_eq_some] at h
  obtain ⟨_, _, h⟩ := h
  split at h
  · split at h
    · cases h
    · cases h
    · simp only [Option.ite_none_left_eq_some, Option.ite_none_right_eq_some, Option.some.injEq] at h
      obtain ⟨hle, _, rfl⟩ := h
      exact Nat.le_trans (Proof.Slice.slice_length_le ..) (by split <;> omega)
  · cases h

/-! ### fixed-width encoders: the `panic("encoded data too large" / "size mismatch")` guards -/

/-- pathTableEntry.size() computes with `byte(len(identifier))`; encodeOrdered writes `len` bytes -/
def ptEntrySizeGo (idLen : Nat) : Nat := 8 + idLen % 256 + (idLen % 256) % 2
def ptEntryEncodedLen (idLen : Nat) : Nat := 8 + idLen + idLen % 2

/-- … they agree (no "path table entry size mismatch") for every identifier the generator makes -/
theorem pt_entry_size_consistent (name : Bytes) (joliet : Bool) :
    ptEntrySizeGo (makeIdentifier name joliet).length = ptEntryEncodedLen (makeIdentifier name joliet).length := by
  have := C08.identifier_fits name joliet
  unfold ptEntrySizeGo ptEntryEncodedLen
  rw [Nat.mod_eq_of_lt (by omega)]

/-- the record-length byte never wraps and the record is what `size()` says -/
theorem dir_record_consistent (r : DirRec) (ht : r.time.length = 7) (name : Bytes) (joliet : Bool)
    (hid : r.ident = makeIdentifier name joliet) : r.encode.length = r.size ∧ r.ident.length < 256 := by
  have := C08.identifier_fits name joliet
  exact ⟨C08.record_length r ht, by rw [hid]; omega⟩

/-- the volume identifier handed to the 32-byte field fits, for every directory name -/
theorem volume_id_fits (set name : Bytes) (joliet : Bool) : ((mangleUpper set name joliet).take 32).length ≤ 32 :=
  List.length_take_le _ _

/-- `gameCode[:4]` and the 32-byte product-id field: only evaluated for a TITLE_ID of 4..31 bytes,
    whatever PARAM.SFO contains -/
theorem product_id_guarded (w : World) (root : Path) (c : Bytes) (h : gameCodeOf w root true = some c) :
    4 ≤ c.length ∧ (c.take 4 ++ [45] ++ c.drop 4).length ≤ 32 := by
  obtain ⟨h31, h4⟩ := gameCodeOf_bounds h
  exact ⟨h4 rfl, productCode_length_le h31⟩

/-! ### HandleReadCD2048Critical: the offset reached with the largest start sector, count and sector size
    (2448), after the 24 bytes of `psxPrefixSize`, fits int64; offsets grow with each of the three -/

theorem readcd_offsets_fit : readCDMaxOffset 24 2448 < 2 ^ 63 := by decide

end Ps3.Props.C04
