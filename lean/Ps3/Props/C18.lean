/-
  C18 — Re-opening an unchanged directory yields the same image layout.
-/
import Ps3.Model.Viso
namespace Ps3.Props.C18
open Ps3.Viso

/-- Layout (scan order, every LBA, every size) is a function of the tree and the mode only:
    `layoutOf` takes neither a clock nor randomness. Two opens of the same unchanged tree — later,
    on another connection, concurrently — therefore agree on size, file extents, pad area and on the
    length of the metadata area. -/
theorem same_layout (w : World) (root : Path) (ps3 : Bool) (c1 c2 : Clock) (f1 f2 : Bytes) :
    (build w root ps3 c1 f1).map (fun i => (i.files, i.padAreaStart, i.padAreaSize, i.totalSize)) =
    (build w root ps3 c2 f2).map (fun i => (i.files, i.padAreaStart, i.padAreaSize, i.totalSize)) := by
  cases h : layoutOf w root ps3 <;> simp [build, h, imageOf]

/-- whether an image can be built at all does not depend on time or randomness either -/
theorem same_outcome (w : World) (root : Path) (ps3 : Bool) (c1 c2 : Clock) (f1 f2 : Bytes) :
    (build w root ps3 c1 f1).isSome = (build w root ps3 c2 f2).isSome := by
  simp [build]

/-- A volume descriptor depends on the clock only through its two 17-byte creation / modification
    fields: it is `pre ++ time ++ time ++ post` with `pre` and `post` independent of the clock. -/
theorem descriptor_clock_fields (typ : Nat) (joliet : Bool) (name : Bytes) (vs pt l m : Nat) (rr : DirRec) :
    ∃ pre post : Bytes, ∀ clk : Clock,
      volumeDescriptor typ joliet name vs pt l m rr clk =
        pre ++ (volTime clk.now clk.hundredths ++ (volTime clk.now clk.hundredths ++ post)) := by
  refine ⟨descHeader typ ++ descBodyPre joliet name vs pt l m rr,
    descBodyPost ++ List.replicate (sectorSize - 7 - ((descBodyPre joliet name vs pt l m rr).length + (17 + (17 + descBodyPost.length)))) 0,
    fun clk => ?_⟩
  simp only [volumeDescriptor, padTo, List.append_assoc, List.length_append, volTime_length]

/-- The metadata area depends on the clock only through the two descriptors, and on the random
    filler only through the PS3 system area: every other part (terminator, path tables, directory
    records of both hierarchies) is a function of the layout alone. -/
theorem meta_structure (L : Layout) (ps3 : Bool) (clk : Clock) (filler : Bytes) :
    metaBytes L ps3 clk filler =
      sysArea L ps3 filler ++ (pvdOf L clk ++ (svdOf L clk ++ (terminatorDescriptor ++ (zeros sectorSize ++ tablesAndDirs L)))) := by
  simp only [metaBytes, List.append_assoc]

/-- without PS3 mode the system area does not depend on the filler at all -/
theorem sysArea_plain (L : Layout) (f1 f2 : Bytes) : sysArea L false f1 = sysArea L false f2 := by
  simp [sysArea]

/-- in PS3 mode the system area depends on the filler only through its 0x1C0-byte field -/
theorem sysArea_ps3_fields (L : Layout) :
    ∃ pre post : Bytes, ∀ filler : Bytes, filler.length = 0x1C0 →
      sysArea L true filler = pre ++ (filler ++ post) := by
  refine ⟨rangesSector L ++ infoHead L,
    List.replicate (sectorSize - ((infoHead L).length + 0x1C0)) 0 ++ zeros (14 * sectorSize), fun filler hf => ?_⟩
  -- a filler of full length is neither cut nor padded
  simp only [sysArea, if_true, padTo, List.take_of_length_le (Nat.le_of_eq hf), hf, Nat.sub_self, List.replicate_zero,
    List.append_nil, List.length_append, List.append_assoc]

/-- PS3 sector 0 declares exactly one plain region, sectors 0 … volume size − 1 (big-endian count 1,
    4 pad bytes, start 0, end). -/
theorem ranges_sector_content (L : Layout) :
    (rangesSector L).take 16 = beN 4 1 ++ zeros 4 ++ beN 4 0 ++ beN 4 (L.volSectors - 1) := by
  unfold rangesSector padTo
  rw [List.take_append_of_le_length (by simp)]
  exact List.take_of_length_le (by simp)

end Ps3.Props.C18
