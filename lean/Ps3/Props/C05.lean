/-
  C05 — Write gating: read-only by default; uploads exact when enabled.
-/
import Ps3.Proof.Content
import Ps3.Props.C03
namespace Ps3.Props.C05
open Ps3.Conn Ps3.Proto

/-- With writing disabled no single request changes anything under the root
    (files, contents, directories, timestamps) — for every request, state and world. -/
theorem readonly_step (cfg : Cfg) (h : cfg.allowWrite = false) (w : World) (st : State) (r : Req) :
    (step cfg w st r).1 = w := by
  have hf := step_frame cfg w st r
  -- `Frame` has `s.1 = w ∧ _` for the requests that never write; the five others are refused
  cases r <;> first | exact hf.1 | simp [step, h]

/-- … and therefore no request *sequence*, complete or truncated, well-formed or not, does:
    the world after `serveConn` returns is the world before, for every byte stream. -/
theorem readonly_serve (cfg : Cfg) (h : cfg.allowWrite = false) :
    ∀ (fuel : Nat) (w : World) (st : State) (input acc : Bytes) (used : Nat),
      (serve cfg fuel w st input acc used).1 = w := by
  intro fuel
  induction fuel with
  | zero => intros; rfl
  | succ n ih =>
    intro w st input acc used
    cases hd : decode input with
    | incomplete =>
      rw [C03.truncated_closes cfg n w st input acc used hd]
      exact C03.truncated_changes_nothing cfg w st input (.inr (.inl h))
    | unknown op => rw [C03.unknown_closes cfg n w st input acc used op hd]
    | req r rest =>
      rw [C03.serve_one hd]
      dsimp only
      split
      · exact readonly_step cfg h w st r
      · rw [ih]; exact readonly_step cfg h w st r

/-- Every mutating request is refused with the protocol's failure code when writing is disabled. -/
theorem create_refused (cfg : Cfg) (h : cfg.allowWrite = false) (w : World) (st : State) (p : Bytes) :
    (step cfg w st (.createFile p)).2.2.bytes = createFileResult false := by simp [step, h]

theorem write_refused (cfg : Cfg) (h : cfg.allowWrite = false) (w : World) (st : State) (n : Nat) (pl : Bytes) :
    (step cfg w st (.writeFile n pl)).2.2.bytes = writeFileResult none := by simp [step, h]

theorem delete_refused (cfg : Cfg) (h : cfg.allowWrite = false) (w : World) (st : State) (p : Bytes) :
    (step cfg w st (.deleteFile p)).2.2.bytes = deleteFileResult false := by simp [step, h]

theorem mkdir_refused (cfg : Cfg) (h : cfg.allowWrite = false) (w : World) (st : State) (p : Bytes) :
    (step cfg w st (.mkdir p)).2.2.bytes = mkdirResult false := by simp [step, h]

theorem rmdir_refused (cfg : Cfg) (h : cfg.allowWrite = false) (w : World) (st : State) (p : Bytes) :
    (step cfg w st (.rmdir p)).2.2.bytes = rmdirResult false := by simp [step, h]

theorem failure_code : createFileResult false = [0xff, 0xff, 0xff, 0xff] ∧ createFileResult true = [0, 0, 0, 0] := by
  decide

/-- A refused request never ends the connection (the client stays in sync and may go on reading). -/
theorem refused_keeps_connection (cfg : Cfg) (h : cfg.allowWrite = false) (w : World) (st : State) (r : Req)
    (hm : match r with | .createFile _ | .writeFile _ _ | .deleteFile _ | .mkdir _ | .rmdir _ => True | _ => False) :
    (step cfg w st r).2.2.close = false := by
  cases r <;> simp at hm <;> simp [step, h]

/-- In either mode a generated image can never be written through: creating a file below a
    virtual-image prefix leaves the world unchanged (and is refused unless the path names an
    existing directory, for which CREATE is a no-op by protocol). -/
theorem create_virtual_noop (cfg : Cfg) (w : World) (st : State) (p : Bytes)
    (hv : isVirtual (PathStr.cleanRequest p) = true) :
    (step cfg w st (.createFile p)).1 = w := by
  simp only [step, hv, ↓reduceIte]
  split
  · rfl
  · split <;> rfl

/-- WRITE_FILE past all its guards: what is appended is the payload `pl`, whatever `n` announced -/
theorem step_write {cfg : Cfg} (h : cfg.allowWrite = true) {w : World} {st : State} {ino : Nat} {f : Inode}
    (hwo : st.wo = some ⟨ino⟩) (hf : w.inode? ino = some f) {n : Nat} {pl : Bytes} (hn : n ≤ maxAnnounce) :
    step cfg w st (.writeFile n pl) =
      (w.setInode ino ⟨Content.ofBytes (f.content.all ++ pl), if pl.isEmpty then f.mtime else recent⟩, st,
        ⟨writeFileResult (some pl.length), false⟩) := by
  simp [step, h, hwo, hf, Nat.not_lt.mpr hn]

/-- With writing enabled, a WRITE_FILE appends exactly the payload to the file being written
    (whatever its previous content) and reports exactly the payload's length. -/
theorem write_appends (cfg : Cfg) (h : cfg.allowWrite = true) (w : World) (st : State) (ino : Nat) (f : Inode)
    (hwo : st.wo = some ⟨ino⟩) (hf : w.inode? ino = some f) (n : Nat) (pl : Bytes) (hn : n ≤ maxAnnounce) :
    ((step cfg w st (.writeFile n pl)).1.inode? ino).map (·.content.all) = some (f.content.all ++ pl)
    ∧ (step cfg w st (.writeFile n pl)).2.2.bytes = writeFileResult (some pl.length) := by
  rw [step_write h hwo hf hn]
  simp [World.inode?_setInode _ hf, Content.ofBytes_all]

/-- A payload whose length the 32-bit answer could not report (2 GiB or more) is refused as a whole:
    nothing is written and the failure code is answered, in either mode. -/
theorem write_too_big_refused (cfg : Cfg) (w : World) (st : State) (n : Nat) (pl : Bytes) (hn : n > maxAnnounce) :
    (step cfg w st (.writeFile n pl)).1 = w ∧ (step cfg w st (.writeFile n pl)).2.1 = st ∧
      (step cfg w st (.writeFile n pl)).2.2.bytes = writeFileResult none := by
  simp [step, hn]

/-- Upload exactness: after CREATE opened inode `ino` empty, any sequence of WRITE_FILE payloads
    (any chunking, including empty chunks) leaves exactly their concatenation in the file. -/
theorem upload_exact (cfg : Cfg) (h : cfg.allowWrite = true) (ino : Nat) :
    ∀ (chunks : List Bytes) (w : World) (st : State) (f : Inode),
      (∀ pl ∈ chunks, pl.length ≤ maxAnnounce) →
      st.wo = some ⟨ino⟩ → w.inode? ino = some f →
      let fin := chunks.foldl (fun (ws : World × State) pl =>
        let r := step cfg ws.1 ws.2 (.writeFile pl.length pl); (r.1, r.2.1)) (w, st)
      (fin.1.inode? ino).map (·.content.all) = some (f.content.all ++ chunks.flatten) := by
  intro chunks
  induction chunks with
  | nil => intro w st f _ _ hf; simp [hf]
  | cons pl rest ih =>
    intro w st f hsz hwo hf
    have hsz := List.forall_mem_cons.mp hsz
    simp only [List.foldl_cons, step_write h hwo hf hsz.1]
    rw [ih _ st _ hsz.2 hwo (World.inode?_setInode _ hf),
      Content.ofBytes_all, List.flatten_cons, List.append_assoc]

end Ps3.Props.C05
