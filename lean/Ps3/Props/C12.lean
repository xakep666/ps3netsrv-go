/-
  C12 — Connections are isolated from each other under concurrency.
  What is proved: there is no *logical* sharing between connections in the model (request-level
  interleavings). Freedom from data races in Go's memory model is observed (race detector, parallel
  sessions against the sequential prediction), not proved.
-/
import Ps3.Model.Multi
import Ps3.Props.C05
namespace Ps3.Props.C12
open Ps3.Conn Ps3.Proto Ps3.Multi

theorem other_state_untouched {cfg : Cfg} {s : Sys} {i j : Nat} {r : Req} (h : i ≠ j) :
    (stepConn cfg s j r).1.sts[i]? = s.sts[i]? := by
  unfold stepConn
  cases hj : s.sts[j]? with
  | none => rfl
  | some st => simp only; rw [List.getElem?_set_ne (Ne.symm h)]

/-- Connection `i` receives exactly the responses it would receive alone on the same world as soon as
    the requests of the *other* connections leave the world unchanged; its own requests may do anything. -/
theorem noninterference (cfg : Cfg) (i : Nat) (sched : List (Nat × Req)) (s : Sys) (st : State)
    (hP : ∀ p ∈ sched, p.1 ≠ i → ∀ w st', (step cfg w st' p.2).1 = w) (hst : s.sts[i]? = some st) :
    project i (runSched cfg s sched) = runAlone cfg s.w st (project i sched) := by
  induction sched generalizing s st with
  | nil => rfl
  | cons hd rest ih =>
    obtain ⟨j, r⟩ := hd
    obtain ⟨hjr, hrest⟩ := List.forall_mem_cons.mp hP
    by_cases hji : j = i
    · subst hji
      -- own request: both sides emit the same response and continue from the same world and state
      simp only [runSched, stepConn, hst, project, List.filterMap_cons, if_true, runAlone]
      exact congrArg _ (ih _ _ hrest (List.getElem?_set_self (List.getElem?_eq_some_iff.mp hst).1))
    · have hw : (stepConn cfg s j r).1.w = s.w := by
        unfold stepConn
        cases s.sts[j]? with
        | none => rfl
        | some stj => exact hjr hji s.w stj
      have hrec := ih (stepConn cfg s j r).1 st hrest (by rwa [other_state_untouched (Ne.symm hji)])
      rw [hw] at hrec
      simp only [runSched]
      cases (stepConn cfg s j r).2 <;> simpa only [project, List.filterMap_cons, hji, if_false] using hrec

/-- in particular the responses of a connection do not depend on what the others send, nor on how
    their requests are interleaved with its own -/
theorem independent_of_others (cfg : Cfg) (hro : cfg.allowWrite = false) (i : Nat)
    (sched1 sched2 : List (Nat × Req)) (s : Sys) (st : State) (hst : s.sts[i]? = some st)
    (hsame : project i sched1 = project i sched2) :
    project i (runSched cfg s sched1) = project i (runSched cfg s sched2) := by
  have h := fun sched => noninterference cfg i sched s st
    (fun p _ _ w st' => Props.C05.readonly_step cfg hro w st' p.2) hst
  rw [h, h, hsame]

/-- requests that can change something under the root -/
def mutating : Req → Bool
  | .createFile _ | .writeFile _ _ | .deleteFile _ | .mkdir _ | .rmdir _ => true
  | _ => false

theorem read_step_frame (cfg : Cfg) (w : World) (st : State) (r : Req) (h : mutating r = false) :
    (step cfg w st r).1 = w := by
  have hf := step_frame cfg w st r
  -- `Frame` has `s.1 = w ∧ _` for the non-mutating requests
  cases r <;> first | exact hf.1 | cases h

/-- Non-interference from any frame condition `P` that every request of the schedule satisfies. -/
theorem noninterference_of_frame (cfg : Cfg) (P : Req → Prop)
    (hframe : ∀ w st r, P r → (step cfg w st r).1 = w) (i : Nat) :
    ∀ (sched : List (Nat × Req)) (s : Sys) (st : State), (∀ p ∈ sched, P p.2) → s.sts[i]? = some st →
      project i (runSched cfg s sched) = runAlone cfg s.w st (project i sched) :=
  fun sched s st hP => noninterference cfg i sched s st fun p hp _ w st' => hframe w st' p.2 (hP p hp)

/-- **Readers never disturb each other, also on a server with writing enabled**: for any number of
    connections and any interleaving of open / stat / list / read / dir-size requests, every
    connection receives exactly the responses it would receive alone. -/
theorem noninterference_readers (cfg : Cfg) (i : Nat) (sched : List (Nat × Req)) (s : Sys) (st : State)
    (hread : ∀ p ∈ sched, mutating p.2 = false) (hst : s.sts[i]? = some st) :
    project i (runSched cfg s sched) = runAlone cfg s.w st (project i sched) :=
  noninterference_of_frame cfg (fun r => mutating r = false) (read_step_frame cfg) i sched s st hread hst

/-- every new connection starts from the empty state: nothing of an earlier or parallel connection
    (open files, directory cursor, sector size) is inherited -/
theorem fresh_connection_state : ({} : State).cwd.isNone ∧ ({} : State).ro.isNone ∧ ({} : State).wo.isNone ∧
    ({} : State).cdSectorSize = 0 := by decide

/-- The shared buffer pool hands every buffer to at most one connection at a time, under every
    interleaving of get/put events of any number of connections. -/
theorem pool_exclusive (p : Pool) (h : p.Inv) (e : PoolEv) : (p.step e).Inv := by
  -- the invariant speaks of the buffers in `free ++ held` up to their order
  have perm : ∀ free held, (p.free ++ p.held.map (·.2)).Perm (free ++ held.map (·.2)) →
      Pool.Inv ⟨free, held, p.next⟩ :=
    fun _ _ hp => ⟨hp.nodup_iff.mp h.1, fun b hb => h.2 b (hp.mem_iff.mpr hb)⟩
  cases e with
  | get c =>
    simp only [Pool.step]
    cases hf : p.free with
    | nil =>
      obtain ⟨hnd, hlt⟩ := h
      rw [hf] at hnd hlt
      exact ⟨List.nodup_cons.mpr ⟨fun hm => Nat.lt_irrefl _ (hlt _ hm), hnd⟩,
        List.forall_mem_cons.mpr ⟨Nat.lt_succ_self _, fun b hb => Nat.lt_succ_of_lt (hlt b hb)⟩⟩
    | cons b rest => exact perm _ _ (by rw [hf]; simpa using List.perm_middle.symm)
  | put c =>
    simp only [Pool.step]
    cases hfind : p.held.find? (fun h => h.1 == c) with
    | none => exact h
    | some hb =>
      have := (List.perm_cons_erase (List.mem_of_find?_eq_some hfind)).map (·.2)
      exact perm _ _ ((List.Perm.append_left _ this).trans List.perm_middle)

/-- the empty pool satisfies the invariant, so it holds in every reachable pool state -/
theorem pool_init : (⟨[], [], 0⟩ : Pool).Inv := by simp [Pool.Inv]

end Ps3.Props.C12
