/-
  C02 — Served bytes equal stored bytes for every offset and length.
-/
import Ps3.Model.Conn
import Ps3.Proof.Content
namespace Ps3.Props.C02
open Ps3.Conn Ps3.Proto

/-- reading `img` from `off` with an arbitrary schedule of chunk sizes (LimitReader + ReadFrom /
    CopyBuffer loops: whatever the sizes of the individual reads) -/
def readChunks (img : Bytes) : Nat → List Nat → Bytes
  | _, [] => []
  | off, c :: cs => slice img off c ++ readChunks img (off + c) cs

theorem readChunks_eq_slice (img : Bytes) (off : Nat) (cs : List Nat) :
    readChunks img off cs = slice img off cs.sum := by
  induction cs generalizing off with
  | nil => simp [readChunks, slice]
  | cons c cs ih => simp only [readChunks, List.sum_cons, ih, slice_add]

/-- **At or after the end every kind of object answers the empty read**, also at offsets ≥ 2^63 or beyond what the
    filesystem can seek to. -/
theorem readFile_beyond_end (cfg : Cfg) (w : World) (st : State) (ro : RO) (hro : st.ro = some ro)
    (hd : ro.isDir = false) (limit off : Nat) (hoff : roSize w ro ≤ off) :
    step cfg w st (.readFile limit off) = (w, st, ⟨readFileResultHdr 0, false⟩) := by
  simp [step, hro, hd, hoff]

/-- The ordinary read announces exactly the number of bytes in `[off, min(off+limit, size))`
    and then sends exactly those bytes; the connection stays open. -/
theorem readFile_exact (cfg : Cfg) (w : World) (st : State) (ino : Nat) (f : Inode)
    (hro : st.ro = some (.plain ino)) (hf : w.inode? ino = some f) (limit off : Nat) (hoff : off ≤ osSeekMax)
    (hl : limit < 2 ^ 31) :
    step cfg w st (.readFile limit off) =
      (w, st, ⟨readFileResultHdr (min limit (f.content.size - off)) ++ f.content.read off limit, false⟩) := by
  by_cases hend : f.content.size ≤ off
  · -- at or after the end: the empty answer, which is what the rule says as well
    have h0 : f.content.read off limit = [] :=
      List.eq_nil_of_length_eq_zero (by rw [Content.read_length]; omega)
    have hm : min limit (f.content.size - off) = 0 := by omega
    rw [readFile_beyond_end cfg w st _ hro rfl limit off (by simpa [roSize, hf] using hend), h0, hm,
      List.append_nil]
  · have hcap : min limit maxAnnounce = limit := by unfold maxAnnounce; omega
    simp [step, hro, hf, roSize, roSeekOk_plain hoff, roRead, RO.isDir, Content.read_length, hend, hcap]

/-- **Served bytes are stored bytes**: what a read of `(off, limit)` delivers is the slice
    `[off, min(off+limit, size))` of the file's one fixed content (`Content.read_eq_slice_all`);
    consequently two reads that overlap agree on the overlap, and consecutive reads concatenate -/
theorem reads_concatenate (c : Content) (off a b : Nat) : c.read off (a + b) = c.read off a ++ c.read (off + a) b := by
  simp only [Content.read_eq_slice_all, slice_add]

theorem readFile_header (n : Nat) : readFileResultHdr n = beN 4 n := rfl

/-- The critical read sends the same bytes raw, and ends the connection exactly when it could not
    be satisfied in full — after a correct prefix. -/
theorem readCrit_exact (cfg : Cfg) (w : World) (st : State) (ino : Nat) (f : Inode)
    (hro : st.ro = some (.plain ino)) (hf : w.inode? ino = some f) (limit off : Nat) (hoff : off ≤ osSeekMax) :
    step cfg w st (.readFileCritical limit off) =
      (w, st, ⟨f.content.read off limit, decide (min limit (f.content.size - off) < limit)⟩) := by
  simp [step, hro, hf, roSeekOk_plain hoff, roRead, Content.read_length]

/-- Reads through a generated image or a decrypting view obey the same rule with the view's bytes. -/
theorem readFile_view (cfg : Cfg) (w : World) (st : State) (v : StaticView)
    (hro : st.ro = some (.static v)) (limit off : Nat) (hoff : off < 2 ^ 63) (hseek : v.seekOk off = true)
    (hend : v.size ≤ off → v.read off limit = []) (hl : limit < 2 ^ 31) :
    step cfg w st (.readFile limit off) =
      (w, st, ⟨readFileResultHdr (v.read off limit).length ++ v.read off limit, false⟩) := by
  have hcap : min limit maxAnnounce = limit := by unfold maxAnnounce; omega
  by_cases he : v.size ≤ off
  · simp [step, hro, roSize, RO.isDir, he, hend he]
  · simp [step, hro, roSize, roSeekOk, roRead, RO.isDir, hseek, Nat.not_le.mpr hoff, he, hcap]

/-- A request for 2 GiB or more (outside what the 32-bit answer can announce) is served as a request
    for 2^31−1 bytes: still announced-then-sent, never a negative count. -/
theorem readFile_capped (cfg : Cfg) (w : World) (st : State) (limit off : Nat) (hl : limit ≥ 2 ^ 31) :
    step cfg w st (.readFile limit off) = step cfg w st (.readFile (2 ^ 31 - 1) off) := by
  have h1 : min limit maxAnnounce = maxAnnounce := by unfold maxAnnounce; omega
  have h2 : min (2 ^ 31 - 1) maxAnnounce = maxAnnounce := Nat.min_self _
  simp only [step, h1, h2]

/-- Without an open file the ordinary read is answered with −1 (the connection goes on) and the
    critical read, which has no way to say so, ends the connection: the client never receives
    unannounced data. -/
theorem read_without_file (cfg : Cfg) (w : World) (st : State) (hro : st.ro = none) (limit off : Nat) :
    (step cfg w st (.readFile limit off)).2.2 = ⟨readFileResultHdr (neg1 4), false⟩ ∧
    (step cfg w st (.readFileCritical limit off)).2.2 = ⟨[], true⟩ := by
  simp [step, hro]

/-- Announced size and modification time are the file's. -/
theorem open_announces (cfg : Cfg) (w : World) (st : State) (raw : Bytes) (ino : Nat) (f : Inode)
    (hname : PathStr.cleanRequest raw ≠ [closeFileName])
    (hopen : openRO cfg w (PathStr.cleanRequest raw) = some (.plain ino)) (hf : w.inode? ino = some f) :
    (step cfg w st (.openFile raw)).2.2 = ⟨openFileResult (some (f.content.size, f.mtime)), false⟩ := by
  simp [step, hname, hopen, hf, roSize]

theorem open_layout (sz mt : Nat) : openFileResult (some (sz, mt)) = beN 8 sz ++ beN 8 mt := rfl

/-- Interleaving: no request other than OPEN_FILE changes which object the connection reads from. -/
theorem ro_frame (cfg : Cfg) (w : World) (st : State) (r : Req)
    (hr : match r with | .openFile _ => False | _ => True) :
    (step cfg w st r).2.1.ro = st.ro := by
  have h := step_frame cfg w st r
  -- `Frame` gives `s.2.1` as `st` with at most `cwd` or `wo` replaced, behind `s.1 = w ∧` where the world is kept
  cases r <;> first | exact hr.elim | rw [h.2] | rw [show _ = _ from h]

/-- non-vacuity: a 3000-byte file read at offset 2047 for 2 bytes -/
example : (Content.mk 3000 7 []).read 2047 2 = [patByte 7 2047, patByte 7 2048] := rfl

end Ps3.Props.C02
