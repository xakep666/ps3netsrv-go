/-
  C07 (second part) — **end to end**: what an independent ISO 9660 reader finds in a generated image is
  exactly the source tree. The reader is `Spec/IsoTree.lean` (written from ECMA-119: root record in the
  volume descriptor, directory extents, file flags, multi-extent files); the image is the canonical byte
  string `flat` of the image `build` produces (C09: every read of the served image, the network view and
  make-iso's output are slices of that string).

  Hypothesis `Fits`: every location and length of one hierarchy fits its 32-bit field. Locations always do
  (C08 `volume_fits`), file extent lengths always do (`extent_len_fits`); what remains is "no single
  directory holds 4 GiB of records" (about 10^8 entries in one directory).

  First `built_extent_content` and `file_reachable_through_image`: the extent theorems of Props/C07.lean for the image
  `build` produces, through `build_wf`.
-/
import Ps3.Proof.IsoTree
import Ps3.Props.C08c
namespace Ps3.Props.C07
open Ps3.Viso Ps3.Spec.IsoDir Ps3.Spec.IsoTree Ps3.Proof.IsoTree Ps3.Proof.BuildWF Ps3.Props.C08

/-- the identifiers under which a reader sees the path `rel` (relative to the image root) -/
def idsOf (joliet : Bool) (rel : Path) : List Bytes := rel.map (fun n => makeIdentifier n joliet)

/-- Unconditionally, for every tree: each non-empty file of the image `build` produces is stored,
    byte for byte and zero-padded, in the extent its record names. -/
theorem built_extent_content (w : World) (root : Path) (ps3 : Bool) (clk : Clock) (filler : Bytes) (img : Image)
    (h : build w root ps3 clk filler = some img) (f : FileExt) (hf : f ∈ img.files) :
    img.read (Proof.BuildWF.cfOf w) (f.lba * sectorSize) f.size = (Proof.BuildWF.cfOf w f.ino).all :=
  read_extent img _ (build_wf w root ps3 clk filler img h) f hf

/-- **From a directory record to the file's bytes.** For every tree and both hierarchies: a non-empty
    file `f` of directory `k` that fits one extent has, among the records of that directory, one with
    the file's mapped identifier and exact size, and reading the image at the location that record names
    returns exactly the file's content. -/
theorem file_reachable_through_image (w : World) (root : Path) (ps3 : Bool) (clk : Clock) (filler : Bytes) (L : Layout)
    (hL : layoutOf w root ps3 = some L) (joliet : Bool) (dirLBA k : Nat) (it : DirItem) (hk : L.items[k]? = some it)
    (f : FileRef) (hf : f ∈ it.files) (hpos : f.size ≠ 0) (hone : f.size ≤ maxPart) :
    ∃ r ∈ finalRecs L.items L.rootLen joliet dirLBA L.filesLBA k it,
      r.ident = makeIdentifier f.name joliet ∧ r.extLen = f.size ∧ r.flags = 0 ∧
      (imageOf L ps3 clk filler).read (Proof.BuildWF.cfOf w) (r.extLoc * sectorSize) f.size = (Proof.BuildWF.cfOf w f.ino).all := by
  have himg : build w root ps3 clk filler = some (imageOf L ps3 clk filler) := by simp [build, hL]
  refine ⟨⟨f.rLBA + L.filesLBA, f.size, recTime f.mtime, 0, makeIdentifier f.name joliet⟩, ?_, rfl, rfl, rfl, ?_⟩
  · unfold finalRecs
    simp only [List.mem_append, List.mem_flatten, List.mem_map]
    left; right
    exact ⟨_, ⟨f, hf, rfl⟩, by rw [Proof.Recs.fileRecs_single joliet _ hone]; exact List.mem_singleton_self _⟩
  · exact built_extent_content w root ps3 clk filler _ himg ⟨f.ino, f.size, f.rLBA + L.filesLBA⟩
      (Proof.Scan.mem_files (Proof.Scan.mem_allFiles (List.mem_of_getElem? hk) hf) hpos)

/-- **The volume descriptor leads to the root directory**: the root directory record a reader parses out
    of sector 16 (primary) or 17 (Joliet) names the extent of directory 0 — the image root. -/
theorem reader_finds_root (w : World) (root : Path) (ps3 : Bool) (clk : Clock) (filler : Bytes) (L : Layout)
    (hL : layoutOf w root ps3 = some L) (joliet : Bool) (hfit : Fits L joliet) :
    ∃ r, rootRecord (imageBytes w L ps3 clk filler) joliet = some r ∧
      r.extLoc = locOf L joliet 0 ∧ r.extLen = lenOf L joliet 0 := by
  have F := layoutOf_facts hL
  obtain ⟨it0, h0, _⟩ := (layoutOf_tree hL).head
  have hpt := descriptors_point_to_root L clk it0 h0
  let r : DirRec := ⟨locOf L joliet 0, lenOf L joliet 0, recTime it0.mtime, 2, [0]⟩
  have hparse : parseRec r.encode = some r := by
    simpa using parse_encode r (finalRecs_ok (hfit 0 it0 h0) r List.mem_cons_self) []
  refine ⟨r, ?_, rfl, rfl⟩
  rw [rootRecord, imageBytes_eq]
  -- the two descriptors are pieces 1 and 2 of the metadata area, at sectors 16 and 17; `o` is given as the `if` that
  -- unfolding `rootRecord` leaves behind, so that `rw` finds the offset syntactically
  cases joliet
  · rw [meta_slice_in F 1 rfl (o := if false = true then 17 else 16) rfl 156 34
      (by rw [pvdOf, volumeDescriptor_length rootRecOf_encode_length_le]; decide), hpt.1]
    exact hparse
  · rw [meta_slice_in F 2 rfl (o := if true = true then 17 else 16) rfl 156 34
      (by rw [svdOf, volumeDescriptor_length rootRecOf_encode_length_le]; decide), hpt.2]
    exact hparse

/-- what a reader finds in the extent of directory `k`, '.' and '..' aside: the records of its files, then one record
    for each child directory -/
theorem dir_entries {w : World} {root : Path} {ps3 : Bool} (clk : Clock) (filler : Bytes) {L : Layout}
    (hL : layoutOf w root ps3 = some L) {joliet : Bool} (hfit : Fits L joliet) {k : Nat} {it : DirItem}
    (hk : L.items[k]? = some it) :
    entries (imageBytes w L ps3 clk filler) (locOf L joliet k) (lenOf L joliet k) =
      fileRecsAll L joliet it ++ childRecs L joliet it := by
  rw [entries, imageBytes_eq, locOf, lenOf, dir_at_its_location (layoutOf_facts hL) hk, ← recsOfDir_drop L joliet k it]
  exact congrArg (List.drop 2) (records_roundtrip _ (finalRecs_ok (hfit k it hk)))

/-- the directory records among the entries of directory `k` are exactly the records of its children in the source
    tree; both directions of the reach theorems below are inductions over this equivalence -/
theorem subdir_entries {w : World} {root : Path} {ps3 : Bool} (clk : Clock) (filler : Bytes) {L : Layout}
    (hL : layoutOf w root ps3 = some L) {joliet : Bool} (hfit : Fits L joliet) {k : Nat} {it : DirItem}
    (hk : L.items[k]? = some it) {r : DirRec} :
    r ∈ entries (imageBytes w L ps3 clk filler) (locOf L joliet k) (lenOf L joliet k) ∧ isDirRec r = true ↔
      ∃ j c, L.items[j]? = some c ∧ c.path = it.path ++ [c.name] ∧ r = childRec L joliet j c := by
  have T := layoutOf_tree hL
  have hname : ∀ {j : Nat} {c : DirItem}, L.items[j]? = some c → c.name = c.path.getLast?.getD [] := fun hc =>
    (T.sound _ (List.mem_of_getElem? hc)).2.2
  rw [dir_entries clk filler hL hfit hk, List.mem_append]
  constructor
  · rintro ⟨hr | hr, hd⟩
    · obtain ⟨_, hl, hrl⟩ := List.mem_flatten.mp hr
      obtain ⟨f, _, rfl⟩ := List.mem_map.mp hl
      rw [fileRecs_not_dir hrl] at hd
      cases hd
    · obtain ⟨j, hj, c, hc, rfl⟩ := Proof.Recs.mem_lookups.mp hr
      rw [mem_childrenIdx hc, ← hname hc] at hj
      exact ⟨j, c, hc, hj.2, rfl⟩
  · rintro ⟨j, c, hc, hp, rfl⟩
    -- `c` is not directory 0: its path is longer than the root's
    have hj : 1 ≤ j := Nat.pos_of_ne_zero fun h => by
      obtain ⟨it0, h0, hroot⟩ := T.head
      obtain ⟨rel, hrel⟩ := reach_extends w root _ (T.sound it (List.mem_of_getElem? hk)).1
      subst h
      rw [h0] at hc
      cases hc
      simpa [hroot, hrel] using congrArg List.length hp
    rw [hname hc] at hp
    exact ⟨.inr (Proof.Recs.mem_lookups.mpr ⟨j, (mem_childrenIdx hc).mpr ⟨hj, hp⟩, c, hc, rfl⟩),
      by simp [isDirRec, childRec]⟩

theorem idsOf_snoc (joliet : Bool) (rel : Path) (n : Name) :
    idsOf joliet (rel ++ [n]) = idsOf joliet rel ++ [makeIdentifier n joliet] := by
  simp [idsOf]

/-- **Completeness — every directory of the source tree is in the image, under its mapped name.** For every `p` reachable
    from the image root in the source tree (through directory entries, links to directories included), a reader following
    directory records from the root extent arrives, along exactly the identifiers the names of `p` map to, at the extent
    of a directory of the image whose source path is `p`. -/
theorem reader_reaches_every_directory (w : World) (root : Path) (ps3 : Bool) (clk : Clock) (filler : Bytes) (L : Layout)
    (hL : layoutOf w root ps3 = some L) (joliet : Bool) (hfit : Fits L joliet) (p : Path) (hp : Reach w root p) :
    ∃ k it rel, L.items[k]? = some it ∧ it.path = p ∧ p = root ++ rel ∧
      ReadsDir (imageBytes w L ps3 clk filler) (locOf L joliet 0) (lenOf L joliet 0) (idsOf joliet rel)
        (locOf L joliet k) (lenOf L joliet k) := by
  have T := layoutOf_tree hL
  obtain ⟨it0, h0, hroot⟩ := T.head
  induction hp with
  | root => exact ⟨0, it0, [], h0, hroot, by simp, ReadsDir.root⟩
  | child p q mt n hp' hst hn hd ih =>
    obtain ⟨k, it, rel, hk, rfl, hrel, hreads⟩ := ih
    obtain ⟨c, hc, hcp⟩ := List.mem_map.mp (T.complete _ (hp'.child _ q mt n hst hn hd))
    obtain ⟨j, hj⟩ := List.getElem?_of_mem hc
    have hname : c.name = n := by rw [(T.sound c hc).2.2, hcp]; simp
    refine ⟨j, c, rel ++ [n], hj, hcp, by rw [hrel, List.append_assoc], ?_⟩
    rw [idsOf_snoc, ← hname]
    have hrec := (subdir_entries clk filler hL hfit hk).mpr ⟨j, c, hj, hname ▸ hcp, rfl⟩
    exact .child _ _ _ _ hreads hrec.1 hrec.2

/-- **Soundness — the image contains no directory that is not in the source tree.** Whatever directory a reader reaches
    from the root extent by following directory records is a directory of the image whose source path lies under the
    root, is reachable in the source tree, and is spelled by exactly the identifiers its names map to. -/
theorem reader_reaches_only_source_directories (w : World) (root : Path) (ps3 : Bool) (clk : Clock) (filler : Bytes)
    (L : Layout) (hL : layoutOf w root ps3 = some L) (joliet : Bool) (hfit : Fits L joliet)
    (ids : List Bytes) (loc len : Nat)
    (h : ReadsDir (imageBytes w L ps3 clk filler) (locOf L joliet 0) (lenOf L joliet 0) ids loc len) :
    ∃ k it rel, L.items[k]? = some it ∧ it.path = root ++ rel ∧ Reach w root it.path ∧ ids = idsOf joliet rel ∧
      loc = locOf L joliet k ∧ len = lenOf L joliet k := by
  have T := layoutOf_tree hL
  obtain ⟨it0, h0, hroot⟩ := T.head
  induction h with
  | root => exact ⟨0, it0, [], h0, by simp [hroot], (T.sound it0 (List.mem_of_getElem? h0)).1, rfl, rfl, rfl⟩
  | child ids loc len r _ hr hdir ih =>
    obtain ⟨k, it, rel, hk, hpath, _, rfl, rfl, rfl⟩ := ih
    obtain ⟨j, c, hc, hcp, rfl⟩ := (subdir_entries clk filler hL hfit hk).mp ⟨hr, hdir⟩
    exact ⟨j, c, rel ++ [c.name], hc, by rw [hcp, hpath, List.append_assoc], (T.sound c (List.mem_of_getElem? hc)).1,
      (idsOf_snoc ..).symm, rfl, rfl⟩

/-- **Every file, byte for byte.** In each directory of the image, the files a reader assembles (joining the
    extents of a multi-extent file) are, in directory order, exactly the files the scan recorded for that
    directory: each under its mapped identifier, each with exactly the bytes of the file that the entry
    named — empty files, sizes that are not a multiple of 2048, and files beyond 4 GiB included. -/
theorem reader_reads_every_file (w : World) (root : Path) (ps3 : Bool) (clk : Clock) (filler : Bytes) (L : Layout)
    (hL : layoutOf w root ps3 = some L) (joliet : Bool) (hfit : Fits L joliet) (k : Nat) (it : DirItem)
    (hk : L.items[k]? = some it) :
    filesOf (imageBytes w L ps3 clk filler) (locOf L joliet k) (lenOf L joliet k) =
      it.files.map (fun f => (makeIdentifier f.name joliet, (cfOf w f.ino).all)) := by
  unfold filesOf
  rw [dir_entries clk filler hL hfit hk, assemble_dir_entries]
  exact List.map_congr_left fun f hf =>
    congrArg (Prod.mk _) (file_bytes clk filler hL (List.mem_of_getElem? hk) hf)

/-- … and those file records are the directory's file entries in the source tree: the names are exactly
    the entries of the directory that `stat` says are regular files (in enumeration order, nothing dropped,
    nothing invented), and each record's bytes come from the very file its entry names. -/
theorem files_are_the_source_files (w : World) (root : Path) (ps3 : Bool) (L : Layout)
    (hL : layoutOf w root ps3 = some L) (it : DirItem) (hit : it ∈ L.items) :
    (∃ q mt, w.stat it.path = some (q, .dir mt) ∧
      it.files.map (·.name) = (dirNames w q).filter (isFileAt w it.path)) ∧
    (∀ f ∈ it.files, ∃ q, w.stat (it.path ++ [f.name]) = some (q, .file f.ino)) ∧
    (∀ f ∈ it.files, (cfOf w f.ino).all.length = f.size) := by
  have T := layoutOf_tree hL
  obtain ⟨q, mt, hst, _, hnames, _, _⟩ := T.itemOk it hit
  exact ⟨⟨q, mt, hst, hnames⟩, (T.sound it hit).2.1,
    fun f hf => by rw [Content.all_length, (file_within_volume hL hit hf).1]⟩

/-- `Fits` is implied by: no single directory extent reaches 4 GiB (`Proof.IsoTree.fits_of_dirLens`; why, the file head says). -/
theorem fits_unless_huge_directory (w : World) (root : Path) (ps3 : Bool) (L : Layout) (hL : layoutOf w root ps3 = some L)
    (joliet : Bool) (h : DirLensFit L joliet) : Fits L joliet :=
  fits_of_dirLens w root ps3 L hL joliet h

/-- **decode ∘ build = the source tree** (both hierarchies, every tree, every clock and filler): `reader_finds_root`,
    `reader_reaches_every_directory`, `reader_reaches_only_source_directories`, `reader_reads_every_file` and
    `files_are_the_source_files` in one statement, with `Fits` discharged by `fits_of_dirLens`.
    Only hypothesis: no directory extent of 4 GiB (`DirLensFit`). -/
theorem image_is_the_tree (w : World) (root : Path) (ps3 : Bool) (clk : Clock) (filler : Bytes) (L : Layout)
    (hL : layoutOf w root ps3 = some L) (joliet : Bool) (h : DirLensFit L joliet) :
    let B := imageBytes w L ps3 clk filler
    (∃ r, rootRecord B joliet = some r ∧ r.extLoc = locOf L joliet 0 ∧ r.extLen = lenOf L joliet 0) ∧
    (∀ p, Reach w root p → ∃ k it rel, L.items[k]? = some it ∧ it.path = p ∧ p = root ++ rel ∧
      ReadsDir B (locOf L joliet 0) (lenOf L joliet 0) (idsOf joliet rel) (locOf L joliet k) (lenOf L joliet k)) ∧
    (∀ ids loc len, ReadsDir B (locOf L joliet 0) (lenOf L joliet 0) ids loc len →
      ∃ k it rel, L.items[k]? = some it ∧ it.path = root ++ rel ∧ Reach w root it.path ∧ ids = idsOf joliet rel ∧
        loc = locOf L joliet k ∧ len = lenOf L joliet k) ∧
    (∀ k it, L.items[k]? = some it →
      filesOf B (locOf L joliet k) (lenOf L joliet k) = it.files.map (fun f => (makeIdentifier f.name joliet, (cfOf w f.ino).all))) ∧
    (∀ it ∈ L.items, (∃ q mt, w.stat it.path = some (q, .dir mt) ∧
        it.files.map (·.name) = (dirNames w q).filter (isFileAt w it.path)) ∧
      (∀ f ∈ it.files, ∃ q, w.stat (it.path ++ [f.name]) = some (q, .file f.ino)) ∧
      (∀ f ∈ it.files, (cfOf w f.ino).all.length = f.size)) := by
  intro B
  have hfit := fits_of_dirLens w root ps3 L hL joliet h
  exact ⟨reader_finds_root w root ps3 clk filler L hL joliet hfit,
    reader_reaches_every_directory w root ps3 clk filler L hL joliet hfit,
    reader_reaches_only_source_directories w root ps3 clk filler L hL joliet hfit,
    reader_reads_every_file w root ps3 clk filler L hL joliet hfit, files_are_the_source_files w root ps3 L hL⟩

/-! non-vacuity: a concrete tree (file `A` of 5 bytes, directory `D` holding the empty file `B`) is accepted by
    `layoutOf`, has two directories, and satisfies `DirLensFit` in both hierarchies (kernel evaluation) -/

def exampleWorld : World :=
  { entries := [⟨[[65]], .file 0⟩, ⟨[[68]], .dir 7⟩, ⟨[[68], [66]], .file 1⟩],
    inodes := [⟨⟨5, 1, []⟩, 3⟩, ⟨⟨0, 1, []⟩, 4⟩] }

instance (L : Layout) (j : Bool) : Decidable (DirLensFit L j) := by unfold DirLensFit; infer_instance

set_option maxRecDepth 100000 in
example : (match layoutOf exampleWorld [] false with
    | some L => L.items.length == 2 && decide (DirLensFit L false) && decide (DirLensFit L true)
    | none => false) = true := by decide

end Ps3.Props.C07
