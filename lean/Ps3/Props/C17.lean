/-
  C17 — PSX CD sector reads return exactly the 2048 user bytes of each sector.
-/
import Ps3.Props.C03
namespace Ps3.Props.C17
open Ps3.Conn Ps3.Proto Ps3.Spec.Proto

/-- Spec: the user data of `count` raw sectors of size `S` starting at byte `off` (the first sector's
    user data begins 24 bytes into the sector), stopping after the first sector that is cut short. -/
def cdData (rd : Nat → Nat → Bytes) (S : Nat) : Nat → Nat → Bytes
  | 0, _ => []
  | k + 1, off =>
    let d := rd off 2048
    if d.length < 2048 then d else d ++ cdData rd S k (off + S)

/-- whether some requested sector is cut short by the end of the image -/
def cdShort (rd : Nat → Nat → Bytes) (S : Nat) : Nat → Nat → Bool
  | 0, _ => false
  | k + 1, off => if (rd off 2048).length < 2048 then true else cdShort rd S k (off + S)

theorem readSize_is_2048 : Gen.handler_HandleReadCD2048Critical_readSize = 2048 := rfl
theorem prefix_is_24 : Gen.handler_psxPrefixSize = 24 := rfl

theorem next_sector (off k S : Nat) : off + (k + 1) * S = off + S + k * S := by
  rw [Nat.succ_mul]; omega

/-- The sector loop of HandleReadCD2048Critical (`step.go`) while every seek succeeds: it appends `cdData` to what it
    has and stops short exactly when `cdShort` says so. -/
theorem readcd_loop {w : World} {st : State} {ro : RO}
    {rd : Nat → Nat → Bytes} (hrd : ∀ o n, roRead w ro o n = some (rd o n)) {k off : Nat} (acc : Bytes)
    (hseek : ∀ j < k, roSeekOk ro (off + j * st.cdSectorSize) = true) :
    step.go w st ro k off acc = (acc ++ cdData rd st.cdSectorSize k off, cdShort rd st.cdSectorSize k off) := by
  induction k generalizing off acc with
  | zero => simp [step.go, cdData, cdShort]
  | succ k ih =>
    have h0 : roSeekOk ro off = true := by simpa using hseek 0 (Nat.succ_pos k)
    simp only [step.go, h0, hrd, readSize_is_2048, cdData, cdShort]
    by_cases h : (rd off 2048).length < 2048
    · simp [h]
    · simp [h, ih _ fun j hj => next_sector off j _ ▸ hseek (j + 1) (Nat.succ_lt_succ hj)]

/-- The sector read command for (start, count) returns exactly the user data of sectors start … start+count−1 in
    order, bytes [24 + k·S, +2048) of each, and ends the connection exactly when the end of the image cuts a sector
    short, after the correct prefix. `rd`: the open object's positioned read (a plain file's stored bytes, C02; or a view's). -/
theorem readcd_exact (cfg : Cfg) (w : World) (st : State) (ro : RO)
    (hro : st.ro = some ro) (hS : st.cdSectorSize ≠ 0)
    (rd : Nat → Nat → Bytes) (hrd : ∀ o n, roRead w ro o n = some (rd o n))
    (start count : Nat)
    (hseek : ∀ j < count, roSeekOk ro (24 + start * st.cdSectorSize + j * st.cdSectorSize) = true) :
    (step cfg w st (.readCD start count)).2.2 =
      ⟨cdData rd st.cdSectorSize count (24 + start * st.cdSectorSize),
       cdShort rd st.cdSectorSize count (24 + start * st.cdSectorSize)⟩ := by
  have hgo := readcd_loop hrd [] hseek
  have hS' : (st.cdSectorSize == 0) = false := by simpa using hS
  simp only [step, hro, hS', Bool.false_eq_true, if_false, prefix_is_24, hgo, List.nil_append]

/-- for a plain file every sector number below 2^32 is seekable (the offset stays below what
    lseek accepts on the served filesystem, `osSeekMax`); 2448 is the largest candidate sector size -/
theorem plain_seekable (ino start j S : Nat) (hsum : start + j < 2 ^ 32)
    (hS : S ≤ 2448) : roSeekOk (.plain ino) (24 + start * S + j * S) = true := by
  have h : (start + j) * S ≤ 2 ^ 32 * 2448 := Nat.mul_le_mul (Nat.le_of_lt hsum) hS
  rw [Nat.add_mul] at h
  exact roSeekOk_plain (by unfold osSeekMax; omega)

/-- When every requested sector lies inside the image the answer is the plain concatenation of the
    2048-byte user-data slices and the connection stays open. -/
theorem cdData_full (rd : Nat → Nat → Bytes) (S : Nat) (count off : Nat)
    (hfull : ∀ k < count, (rd (off + k * S) 2048).length = 2048) :
    cdData rd S count off = ((List.range count).map (fun k => rd (off + k * S) 2048)).flatten ∧
    cdShort rd S count off = false := by
  induction count generalizing off with
  | zero => exact ⟨rfl, rfl⟩
  | succ n ih =>
    have h0 : ¬ (rd off 2048).length < 2048 := by simpa using Nat.le_of_eq (hfull 0 (Nat.succ_pos n)).symm
    obtain ⟨ih1, ih2⟩ := ih (off + S) fun k hk => next_sector off k S ▸ hfull (k + 1) (Nat.succ_lt_succ hk)
    simp [cdData, cdShort, h0, ih1, ih2, List.range_succ_eq_map, Function.comp_def, next_sector]

/-- count 0 sends nothing and keeps the connection -/
theorem readcd_zero (rd : Nat → Nat → Bytes) (S off : Nat) : cdData rd S 0 off = [] ∧ cdShort rd S 0 off = false := by
  simp [cdData, cdShort]

/-- start sector and sector count reach the handler in the order the client sent them -/
theorem args_in_order (start count : Nat) (rest : Bytes) (hs : start < 2 ^ 32) (hc : count < 2 ^ 32) :
    decode (encReadCDReq Gen.proto_CmdReadCD2048Critical start count ++ rest) = .req (.readCD start count) rest :=
  C03.decode_encReq (.readCD start count) ⟨hs, hc⟩ rest

/-- the candidate sizes, signatures and window are the documented ones (DESIGN.md §5 C17; "between 2Mb and 848Mb" in
    HandleOpenFile) -/
theorem detection_table :
    Gen.handler_determineSectorSize_sectorSizes = [2048, 2328, 2336, 2340, 2352, 2368, 2448] ∧
    Gen.handler_determineSectorSize_magic1 = [1, 67, 68, 48, 48, 49] ∧
    Gen.handler_determineSectorSize_magic2 = [80, 76, 65, 89, 83, 84, 65, 84, 73, 79, 78, 32] ∧
    Gen.handler_determineSectorSize_systemAreaSectors = 16 ∧ detectMin = 2 * 1024 * 1024 ∧ detectMax = 848 * 1024 * 1024 := by
  decide

/-- the probe of one candidate: the 20 bytes at 24 + 16·S carry either signature -/
def probeHit (rd : Nat → Nat → Bytes) (s : Nat) : Bool := probeMatch (rd (24 + 16 * s) 20)

/-- Detection returns the first candidate size (in increasing order) whose sector 16 carries the
    ISO 9660 or the PLAYSTATION signature — for images large enough that every probe is inside. -/
theorem detect_first_hit (rd : Nat → Nat → Bytes)
    (hlen : ∀ s ∈ Gen.handler_determineSectorSize_sectorSizes, (rd (24 + 16 * s) 20).length = 20) :
    detectSectorSizeStrict rd = Gen.handler_determineSectorSize_sectorSizes.find? (probeHit rd) := by
  unfold detectSectorSizeStrict
  generalize Gen.handler_determineSectorSize_sectorSizes = sizes at hlen ⊢
  induction sizes with
  | nil => rfl
  | cons s rest ih =>
    obtain ⟨hs, hrest⟩ := List.forall_mem_cons.mp hlen
    have e1 : Gen.handler_determineSectorSize_systemAreaSectors = 16 := rfl
    have e2 : probeLen = 20 := rfl
    simp only [detectGo, List.find?_cons, probeHit, prefix_is_24, e1, e2, hs, bne_self_eq_false,
      Bool.false_eq_true, if_false, ih hrest]
    split <;> simp [*]

theorem find?_of_increasing {p : Nat → Bool} {S : Nat} {l : List Nat} (hl : l.Pairwise (· < ·)) (hS : S ∈ l)
    (hhit : p S = true) (hnone : ∀ s ∈ l, s < S → p s = false) : l.find? p = some S := by
  induction l with
  | nil => cases hS
  | cons a l ih =>
    obtain ⟨ha, hl⟩ := List.pairwise_cons.mp hl
    obtain ⟨hna, hnone⟩ := List.forall_mem_cons.mp hnone
    rcases List.mem_cons.mp hS with rfl | hS
    · exact List.find?_cons_of_pos hhit
    · rw [List.find?_cons_of_neg (by simp [hna (ha S hS)])]
      exact ih hl hS hnone

/-- … in particular a size whose signature is in place and that no smaller candidate's probe
    position imitates is recognised, for each of the seven sizes. -/
theorem detect_correct (rd : Nat → Nat → Bytes) (hlen : ∀ s, (rd (24 + 16 * s) 20).length = 20)
    (S : Nat) (hS : S ∈ Gen.handler_determineSectorSize_sectorSizes) (hhit : probeHit rd S = true)
    (hnone : ∀ s ∈ Gen.handler_determineSectorSize_sectorSizes, s < S → probeHit rd s = false) :
    detectSectorSizeStrict rd = some S :=
  (detect_first_hit rd fun s _ => hlen s).trans (find?_of_increasing (by decide) hS hhit hnone)

end Ps3.Props.C17
