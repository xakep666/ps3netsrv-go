/-
  C03 — Request/response framing and the per-connection state machine.
-/
import Ps3.Spec.Proto
import Ps3.Proof.Proto
import Ps3.Model.Conn
import Ps3.Proof.Seg
namespace Ps3.Props.C03
open Ps3.Conn Ps3.Proto Ps3.Spec.Proto Ps3.Proof.Proto

/-! ### the wire grammar: decoding is a left inverse of encoding -/

/-- a request as the protocol documents it on the wire -/
def encReq : Req → Bytes
  | .openDir p => encPathReq Gen.proto_CmdOpenDir p
  | .readDir => encBareReq Gen.proto_CmdReadDir
  | .readDirEntry => encBareReq Gen.proto_CmdReadDirEntry
  | .readDirEntryV2 => encBareReq Gen.proto_CmdReadDirEntryV2
  | .statFile p => encPathReq Gen.proto_CmdStatFile p
  | .openFile p => encPathReq Gen.proto_CmdOpenFile p
  | .readFile l o => encReadReq Gen.proto_CmdReadFile l o
  | .readFileCritical l o => encReadReq Gen.proto_CmdReadFileCritical l o
  | .readCD s c => encReadCDReq Gen.proto_CmdReadCD2048Critical s c
  | .createFile p => encPathReq Gen.proto_CmdCreateFile p
  | .writeFile _ payload => encWriteReq Gen.proto_CmdWriteFile payload
  | .deleteFile p => encPathReq Gen.proto_CmdDeleteFile p
  | .mkdir p => encPathReq Gen.proto_CmdMkdir p
  | .rmdir p => encPathReq Gen.proto_CmdRmdir p
  | .getDirSize p => encPathReq Gen.proto_CmdGetDirSize p

/-- the field widths of the wire format -/
def ReqWF : Req → Prop
  | .openDir p | .statFile p | .openFile p | .createFile p | .deleteFile p | .mkdir p | .rmdir p | .getDirSize p =>
      p.length < 65536
  | .readFile l o | .readFileCritical l o => l < 2 ^ 32 ∧ o < 2 ^ 64
  | .readCD s c => s < 2 ^ 32 ∧ c < 2 ^ 32
  | .writeFile a payload => a = payload.length ∧ payload.length < 2 ^ 32
  | .readDir | .readDirEntry | .readDirEntryV2 => True

/-- **The server consumes exactly the bytes of each request**: each of the 15 requests, encoded as the protocol
    documents it (`Spec.Proto`) and followed by any further bytes, decodes to that request and exactly those bytes. -/
theorem decode_encReq (r : Req) (h : ReqWF r) (rest : Bytes) : decode (encReq r ++ rest) = .req r rest := by
  generalize hs : encReq r ++ rest = str
  -- The same three moves for each of the five command shapes: `decode_header` gives the four things `decode` reads off
  -- the stream (long enough, opcode, the 14 argument bytes, what follows); `simp +decide only [decode, hh]` then
  -- settles the opcode comparisons of the dispatch; what is left are field reads, each a `getField_at`.
  cases r with
  | openDir p | statFile p | openFile p | createFile p | deleteFile p | mkdir p | rmdir p | getDirSize p =>
    have hh := decode_header str (data := beN 2 p.length ++ zeros 12) (rest := p ++ rest)
      (by simp only [← hs, encReq, encPathReq, List.append_assoc]; rfl)
    simp +decide only [decode, hh, ↓reduceIte]
    exact announced_eq (getField_at [] (zeros 12) h) rest _
  | readDir | readDirEntry | readDirEntryV2 =>
    have hh := decode_header str (data := zeros 14) (rest := rest)
      (by simp only [← hs, encReq, encBareReq, List.append_assoc]; rfl)
    simp +decide only [decode, hh, ↓reduceIte]
  | readFile l o | readFileCritical l o =>
    have hh := decode_header str (data := zeros 2 ++ (beN 4 l ++ beN 8 o)) (rest := rest)
      (by simp only [← hs, encReq, encReadReq, List.append_assoc]; rfl)
    simp +decide only [decode, hh, ↓reduceIte]
    rw [getField_at (zeros 2) (beN 8 o) h.1,
      getField_at (zeros 2 ++ beN 4 l) [] h.2 (hd := by rw [List.append_nil, List.append_assoc])]
  | readCD s c =>
    -- start sector first, sector count second: the order the handler receives them in
    have hh := decode_header str (data := zeros 2 ++ (beN 4 s ++ (beN 4 c ++ zeros 4))) (rest := rest)
      (by simp only [← hs, encReq, encReadCDReq, List.append_assoc]; rfl)
    simp +decide only [decode, hh, ↓reduceIte]
    rw [getField_at (zeros 2) (beN 4 c ++ zeros 4) h.1,
      getField_at (zeros 2 ++ beN 4 s) (zeros 4) h.2 (hd := by rw [List.append_assoc])]
  | writeFile a payload =>
    obtain ⟨rfl, h⟩ := h
    have hh := decode_header str (data := zeros 2 ++ (beN 4 payload.length ++ zeros 8)) (rest := payload ++ rest)
      (by simp only [← hs, encReq, encWriteReq, List.append_assoc]; rfl)
    simp +decide only [decode, hh, ↓reduceIte]
    rw [getField_at (zeros 2) (zeros 8) h]
    exact announced_eq rfl rest _

/-- non-vacuity: a whole two-request stream through the loop -/
example : (decode (encBareReq Gen.proto_CmdReadDir ++ encPathReq Gen.proto_CmdStatFile [47])) =
    .req .readDir (encPathReq Gen.proto_CmdStatFile [47]) := decode_encReq .readDir trivial _

/-! ### exactly one response per request, in order, nothing after the end -/

theorem serve_one {cfg : Cfg} {fuel : Nat} {w : World} {st : State} {input acc : Bytes} {used : Nat}
    {r : Req} {rest : Bytes} (hd : decode input = .req r rest) :
    serve cfg (fuel + 1) w st input acc used =
      let s := step cfg w st r
      let used' := used + (input.length - rest.length)
      if s.2.2.close then (s.1, s.2.1, acc ++ s.2.2.bytes, used')
      else serve cfg fuel s.1 s.2.1 rest (acc ++ s.2.2.bytes) used' := by
  simp only [serve, hd]

/-- An opcode outside the protocol ends the connection without a single byte. -/
theorem unknown_closes (cfg : Cfg) (fuel : Nat) (w : World) (st : State) (input acc : Bytes) (used op : Nat)
    (hd : decode input = .unknown op) :
    serve cfg (fuel + 1) w st input acc used = (w, st, acc, used + cmdSize) := by
  simp only [serve, hd]

/-- A truncated request (fewer bytes than the command, its announced path or its announced payload
    needs) only ends the connection: nothing is sent, the state is untouched, and the only thing that
    can have changed is the file being uploaded (the part of a WRITE_FILE payload that did arrive). -/
theorem truncated_closes (cfg : Cfg) (fuel : Nat) (w : World) (st : State) (input acc : Bytes) (used : Nat)
    (hd : decode input = .incomplete) :
    serve cfg (fuel + 1) w st input acc used = (partialWrite cfg w st input, st, acc, used + input.length) := by
  simp only [serve, hd]

theorem truncated_changes_nothing (cfg : Cfg) (w : World) (st : State) (input : Bytes)
    (h : truncatedWrite input = none ∨ cfg.allowWrite = false ∨ st.wo = none) :
    partialWrite cfg w st input = w := by
  unfold partialWrite
  cases ht : truncatedWrite input with
  | none => rfl
  | some p => rcases h with h | h | h <;> simp_all

theorem short_is_incomplete (s : Bytes) (h : s.length < cmdSize) : decode s = .incomplete := by
  simp [decode, h]

/-- a path announced longer than what follows never forms a request (here: STAT) -/
theorem short_path_is_incomplete (n : Nat) (partialPath : Bytes) (hn : n < 65536) (h : partialPath.length < n) :
    decode (beN 2 Gen.proto_CmdStatFile ++ (beN 2 n ++ (zeros 12 ++ partialPath))) = .incomplete := by
  generalize hs : beN 2 Gen.proto_CmdStatFile ++ _ = str
  have hh := decode_header str (data := beN 2 n ++ zeros 12) (rest := partialPath)
    (by simp only [← hs, List.append_assoc]; rfl)
  simp +decide only [decode, hh, ↓reduceIte]
  rw [getField_at [] (zeros 12) hn, if_pos h]

/-! ### response layouts (re-elaborated against the regenerated struct layouts) -/

theorem len_openDir (ok : Bool) : (openDirResult ok).length = 4 := encodeStruct_length _ _
theorem len_result32 (ok : Bool) : (createFileResult ok).length = 4 ∧ (deleteFileResult ok).length = 4 ∧
    (mkdirResult ok).length = 4 ∧ (rmdirResult ok).length = 4 :=
  ⟨encodeStruct_length _ _, encodeStruct_length _ _, encodeStruct_length _ _, encodeStruct_length _ _⟩
theorem len_write (n : Option Nat) : (writeFileResult n).length = 4 := encodeStruct_length _ _
theorem len_getDirSize (n : Nat) : (getDirSizeResult n).length = 8 := encodeStruct_length _ _
theorem len_openFile (r : Option (Nat × Nat)) : (openFileResult r).length = 16 := by
  cases r <;> exact encodeStruct_length _ _
theorem len_stat (r : Option Info) : (statFileResult r).length = 33 := by
  cases r <;> exact encodeStruct_length _ _
theorem len_dirEntry (i : Info) : (dirEntry i).length = 529 := encodeStruct_length _ _
theorem len_readFileHdr (n : Nat) : (readFileResultHdr n).length = 4 := encodeStruct_length _ _
theorem len_entry_end : (readDirEntryResult none).length = 11 ∧ (readDirEntryV2Result none).length = 35 :=
  ⟨encodeStruct_length _ _, encodeStruct_length _ _⟩
theorem len_entry (i : Info) (h : i.name.length < 65536) :
    (readDirEntryResult (some i)).length = 11 + i.name.length ∧
    (readDirEntryV2Result (some i)).length = 35 + i.name.length := by
  have hn : (if i.name.length % 65536 > 0 then i.name else []).length = i.name.length := by
    rw [Nat.mod_eq_of_lt h]
    split <;> simp_all
  simp only [readDirEntryResult, readDirEntryV2Result, List.length_append, hn, encodeStruct_length]
  exact ⟨rfl, rfl⟩

theorem len_readDir (es : List Info) : (readDirResult es).length = 8 + 529 * es.length := by
  rw [readDirResult, List.length_append, Proof.Seg.length_flatten_map dirEntry 529 len_dirEntry, encodeStruct_length]
  rfl

/-! ### the per-connection state machine -/

/-- OPEN_DIR closes the active directory whether or not the new one can be opened: after a refused
    OPEN_DIR no directory is active, so a following enumeration answers the end marker. -/
theorem failed_openDir_leaves_no_dir (cfg : Cfg) (w : World) (st : State) (raw : Bytes)
    (h : (step cfg w st (.openDir raw)).2.2.bytes = openDirResult false) :
    (step cfg w st (.openDir raw)).2.1.cwd = none := by
  simp only [step] at h ⊢
  split
  · rfl  -- nothing opened
  · next q heq =>  -- a directory: the answer is success
    rw [heq] at h; exact absurd h (by decide : openDirResult true ≠ openDirResult false)
  · rfl  -- not a directory

/-! ### synchronisation over whole request sequences -/

/-- the abstract machine: requests handled one after the other until one ends the connection -/
def runSteps (cfg : Cfg) : World → State → List Req → Bytes → Nat → World × State × Bytes × Nat
  | w, st, [], acc, used => (w, st, acc, used)
  | w, st, r :: rest, acc, used =>
    let o := step cfg w st r
    if o.2.2.close then (o.1, o.2.1, acc ++ o.2.2.bytes, used + (encReq r).length)
    else runSteps cfg o.1 o.2.1 rest (acc ++ o.2.2.bytes) (used + (encReq r).length)

/-- **Client and server never lose synchronisation**: requests sent back to back as one byte stream are handled one by
    one, in order, until a handler ends the connection; the bytes consumed are exactly those of the requests handled. -/
theorem serve_sync (cfg : Cfg) (rs : List Req) (hwf : ∀ r ∈ rs, ReqWF r) :
    ∀ (fuel : Nat) (w : World) (st : State) (acc : Bytes) (used : Nat), rs.length < fuel →
      serve cfg fuel w st (rs.map encReq).flatten acc used = runSteps cfg w st rs acc used := by
  induction rs with
  | nil =>
    -- on the empty stream the loop stops without any effect, with or without fuel
    intro fuel w st acc used _
    cases fuel <;> rfl
  | cons r rest ih =>
    intro fuel w st acc used hf
    obtain ⟨f, rfl⟩ := Nat.exists_eq_add_one_of_ne_zero (Nat.ne_zero_of_lt hf)
    obtain ⟨hr, hwf⟩ := List.forall_mem_cons.mp hwf
    rw [List.map_cons, List.flatten_cons, serve_one (decode_encReq r hr _), List.length_append, Nat.add_sub_cancel,
      runSteps]
    dsimp only
    split
    · rfl
    · exact ih hwf f _ _ _ _ (Nat.lt_of_succ_lt_succ hf)

end Ps3.Props.C03
