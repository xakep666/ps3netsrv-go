/-
  C13 — Handles are always released; I/O faults never produce wrong data.
  The logic (slot bookkeeping, the judgement of fault outcomes) is proved here; that the real code's
  ledger drains and that real faults stay within the judgement is observed by the fault enumeration.
-/
import Ps3.Model.Conn
import Ps3.Spec.C13
import Ps3.Model.FSWrap
namespace Ps3.Props.C13
open Ps3.Conn Ps3.Proto Ps3.Spec.C13

/-- However a connection ends, the deferred State.Close leaves no handle behind. -/
theorem close_releases_all (st : State) : handles st.close = 0 := rfl

/-- a connection never owns more than one handle per slot -/
theorem at_most_three (st : State) : handles st ≤ 3 :=
  Nat.add_le_add (Nat.add_le_add (Bool.toNat_le _) (Bool.toNat_le _)) (Bool.toNat_le _)

/-- **Ledger bookkeeping**: for every request, state and world, the handles owned afterwards are those owned before, plus
    those opened, minus those closed — a replaced or exhausted handle is closed, a failed open leaves none behind. -/
theorem ledger_step (cfg : Cfg) (w : World) (st : State) (r : Req) :
    handles (step cfg w st r).2.1 + (ledgerEv cfg w st r).2 = handles st + (ledgerEv cfg w st r).1 := by
  -- `Frame`: which slots of the state a request can change
  have hf := step_frame cfg w st r
  cases r with
  | openDir p =>
    simp only [step, ledgerEv, handles]
    rcases openRO cfg w (PathStr.cleanRequest p) with _ | _ | _ | _ <;> simp <;> omega
  | readDir =>
    simp only [step, ledgerEv, handles]
    cases h : st.cwd <;> simp [h]
  | readDirEntry | readDirEntryV2 =>
    simp only [step, ledgerEv, handles]
    cases h : st.cwd with
    | none => simp [h]
    | some hd =>
      dsimp only
      cases nextEntry w hd.named (hd.remaining.getD (dirNames w hd.real)) <;> simp <;> omega
  | openFile p =>
    simp only [step, ledgerEv, handles]
    split
    · simp; omega
    · cases openRO cfg w (PathStr.cleanRequest p) <;> simp <;> omega
  | createFile p =>
    cases haw : cfg.allowWrite with
    | false => simp [ledgerEv, haw, show (step cfg w st (.createFile p)).2.1 = st by simp [step, haw]]
    | true =>
      simp only [ledgerEv, mayWrite_create, haw, handles]
      rw [show (step cfg w st (.createFile p)).2.1 = { st with wo := _ } from hf]
      cases (step cfg w st (.createFile p)).2.1.wo <;> simp <;> omega
  | _ => (first | rw [show _ = st from hf] | rw [show _ = st from hf.2]); rfl

/-- over a whole session: opened = closed + still owned; after the final Close: opened = closed -/
theorem ledger_session (cfg : Cfg) :
    ∀ (rs : List Req) (w : World) (st : State),
      let fin := rs.foldl (fun (acc : World × State × Nat × Nat) r =>
        let s := step cfg acc.1 acc.2.1 r
        let e := ledgerEv cfg acc.1 acc.2.1 r
        (s.1, s.2.1, acc.2.2.1 + e.1, acc.2.2.2 + e.2)) (w, st, 0, 0)
      handles fin.2.1 + fin.2.2.2 = handles st + fin.2.2.1 := by
  intro rs w st
  -- the identity is an invariant of the fold: `ledger_step` carries it over one request
  refine List.foldlRecOn (motive := fun (acc : World × State × Nat × Nat) =>
    handles acc.2.1 + acc.2.2.2 = handles st + acc.2.2.1) rs _ rfl ?_
  intro acc h r _
  have := ledger_step cfg acc.1 acc.2.1 r
  dsimp only
  omega

/-- enumeration always makes progress: every answered entry shortens the list of names still to be
    read, so the end marker (and the closing of the directory) is reached after finitely many requests -/
theorem enumeration_progress (w : World) (named : Path) (names : List Name) (i : Info) (rest : List Name)
    (h : nextEntry w named names = some (i, rest)) : rest.length < names.length := by
  fun_induction nextEntry w named names with
  | case1 => cases h
  | case2 n tl i' hs => cases h; exact Nat.lt_succ_self _
  | case3 n tl hs ih => exact Nat.lt_succ_of_lt (ih h)

/-! ### the judgement used by the fault enumeration

`judgeFrom` is unfolded once with `judgeFrom.eq_def` and its branches picked by `rw`: `simp [judgeFrom]`
would try every one of its split equations with their overlap side conditions. -/

theorem judgeFrom_resp (sr : Bool) (allOps : List Nat) (allBase : List Tok) (i op : Nat) (ops : List Nat)
    (x : Bytes) (bs gs : List Tok) :
    judgeFrom sr allOps allBase i (op :: ops) (.resp x :: bs) (.resp x :: gs) =
      judgeFrom sr allOps allBase (i + 1) ops bs gs := by
  rw [judgeFrom.eq_def]; dsimp only; rw [if_pos (beq_self_eq_true _)]

theorem judgeFrom_short {allOps : List Nat} {allBase : List Tok} {i op : Nat} {ops : List Nat}
    {b g : Tok} {bs gs : List Tok} (h : g ≠ b) :
    judgeFrom true allOps allBase i (op :: ops) (b :: bs) (g :: gs) =
      .bad i "a short read changed what the client sees" := by
  rw [judgeFrom.eq_def]; dsimp only; rw [if_neg (by simpa using h), if_pos rfl]

theorem allowedDeviation_failureResp {op : Nat} {base : Tok} {f : Bytes} {ops : List Nat} {all : List Tok}
    (h : failureResp op = some f) : allowedDeviation op base (.resp f) ops all = true := by
  simp [allowedDeviation, h]

theorem allowedDeviation_resp {op : Nat} {base : Tok} {b : Bytes} {ops : List Nat} {all : List Tok}
    (h : (op == Gen.proto_CmdReadDir || op == Gen.proto_CmdReadDirEntry || op == Gen.proto_CmdReadDirEntryV2) = false) :
    allowedDeviation op base (.resp b) ops all = (failureResp op == some b) := by
  simp only [Bool.or_eq_false_iff] at h
  simp [allowedDeviation, knownEntry, entryKey, h]

theorem judgeFrom_failed_open {allOps : List Nat} {allBase : List Tok} {i : Nat} {ops : List Nat}
    {b g2 : Tok} {bs gs : List Tok}
    (hb : b ≠ .resp (neg 8 ++ zeros 8)) (hd : g2 ≠ .resp (neg 4)) :
    judgeFrom false allOps allBase i (Gen.proto_CmdOpenFile :: Gen.proto_CmdReadFile :: ops) (b :: bs)
      (.resp (neg 8 ++ zeros 8) :: g2 :: gs) =
      .bad (i + 1) "data served from a file whose OPEN_FILE was answered with the failure code" := by
  have hf : failureResp Gen.proto_CmdOpenFile = some (neg 8 ++ zeros 8) := rfl
  rw [judgeFrom.eq_def]
  dsimp only
  rw [if_neg (by simpa using hb.symm),                     -- g ≠ b
    if_neg (by decide),                                    -- no short read
    allowedDeviation_failureResp hf, if_neg (by decide),   -- the failure code is an allowed deviation
    hf, if_pos (by simp [Tok.bytes]),                      -- OPEN_FILE answered with its failure code
    if_pos (by decide),                                    -- the next op is READ_FILE
    if_neg (by simpa using hd)]                            -- g2 ≠ −1

/-- the fault-free observation is accepted -/
theorem judge_accepts_identical (allOps ops : List Nat) (allBase base : List Tok) (sr : Bool) (i : Nat)
    (hall : ∀ t ∈ base, ∃ b, t = .resp b) :
    judgeFrom sr allOps allBase i ops base base = .ok ∨ ops.length < base.length := by
  induction base generalizing ops i with
  | nil => left; cases ops <;> rfl
  | cons t ts ih =>
    cases ops with
    | nil => right; simp
    | cons o os =>
      obtain ⟨⟨b, rfl⟩, hts⟩ := List.forall_mem_cons.mp hall
      rw [judgeFrom_resp]
      exact (ih os (i + 1) hts).imp id (Nat.succ_lt_succ ·)

/-- a leaked handle, or a server that stopped serving, is always a violation -/
theorem judge_rejects_leak (ops : List Nat) (sr : Bool) (base got : List Tok) (leak : Nat) (alive ended : Bool)
    (h : leak ≠ 0) : judge ops sr base got leak alive ended ≠ .ok := by
  simp [judge, h]

theorem judge_rejects_dead_server (ops : List Nat) (sr : Bool) (base got : List Tok) (ended : Bool) :
    judge ops sr base got 0 false ended ≠ .ok := by
  simp [judge]

/-- a connection the server never ends after the client finished is always a violation -/
theorem judge_rejects_unclosed_end (ops : List Nat) (sr : Bool) (base got : List Tok) (leak : Nat) (alive ended : Bool) :
    judgeEnd true ops sr base got leak alive ended ≠ .ok := by
  simp [judgeEnd]

/-- a hang is never acceptable -/
theorem timeout_never_allowed (op : Nat) (base : Tok) (b : Bytes) (ops : List Nat) (all : List Tok) :
    allowedDeviation op base (.timeout b) ops all = false := rfl

/-- a closed connection is acceptable only after a correct prefix of the fault-free answer -/
theorem closed_needs_prefix (op : Nat) (base : Tok) (b : Bytes) (ops : List Nat) (all : List Tok) :
    allowedDeviation op base (.closed b) ops all = true ↔ b.isPrefixOf base.bytes = true := by
  simp [allowedDeviation]

/-- altered file data is never acceptable: a complete answer of a read command that differs from the
    fault-free one is rejected — the critical reads have no failure code at all, the ordinary read only
    its 4-byte −1 -/
theorem read_data_never_altered (base : Tok) (b : Bytes) (ops : List Nat) (all : List Tok) :
    (allowedDeviation Gen.proto_CmdReadFile base (.resp b) ops all = true → b = neg 4) ∧
    allowedDeviation Gen.proto_CmdReadFileCritical base (.resp b) ops all = false ∧
    allowedDeviation Gen.proto_CmdReadCD2048Critical base (.resp b) ops all = false := by
  have f1 : failureResp Gen.proto_CmdReadFile = some (neg 4) := rfl
  have f2 : failureResp Gen.proto_CmdReadFileCritical = none := rfl
  have f3 : failureResp Gen.proto_CmdReadCD2048Critical = none := rfl
  rw [allowedDeviation_resp (by decide), allowedDeviation_resp (by decide), allowedDeviation_resp (by decide), f1, f2, f3]
  exact ⟨fun h => (Option.some.inj (eq_of_beq h)).symm, rfl, rfl⟩

/-- with a short read injected, any visible difference is rejected -/
theorem short_read_must_be_invisible (allOps : List Nat) (allBase : List Tok) (i op : Nat) (ops : List Nat)
    (b g : Tok) (bs gs : List Tok) (h : g ≠ b) :
    judgeFrom true allOps allBase i (op :: ops) (b :: bs) (g :: gs) ≠ .ok := by
  rw [judgeFrom_short h]
  nofun

/-- an OPEN_FILE answered with the failure code has opened nothing: data served by a READ_FILE that
    follows it directly is rejected (the file used to stay open when the handler's own Stat failed) -/
theorem data_after_failed_open_rejected (allOps : List Nat) (allBase : List Tok) (i : Nat) (ops : List Nat)
    (b : Tok) (bs gs : List Tok) (data : Bytes)
    (hb : b ≠ .resp (neg 8 ++ zeros 8)) (hd : data ≠ neg 4) :
    judgeFrom false allOps allBase i (Gen.proto_CmdOpenFile :: Gen.proto_CmdReadFile :: ops) (b :: bs)
      (.resp (neg 8 ++ zeros 8) :: .resp data :: gs) ≠ .ok := by
  rw [judgeFrom_failed_open hb (by simpa using hd)]
  nofun

/-! ### key lookup under faults -/
section KeyLookup
open Ps3.FSWrap

/-- **A failing open of the adjacent key never falls back** to the REDKEY key and never yields a
    keyless (ciphertext) view: the open fails. -/
theorem adjacent_error_never_falls_back (red : OpenRes) : keyDecision .ioerr red = .failed := rfl

theorem redkey_error_fails (red : OpenRes) (h : red = .ioerr) : keyDecision .absent red = .failed := by
  subst h; rfl

/-- the key that is used is the first one present: the adjacent one, or — only when that is truly
    absent — the REDKEY one -/
theorem key_used_is_first_present (adj red : OpenRes) (k : Bytes) (h : keyDecision adj red = .key k) :
    adj = .opened (.key k) ∨ (adj = .absent ∧ red = .opened (.key k)) := by
  cases adj with
  | opened r => exact .inl (congrArg _ h)
  | ioerr => cases h
  | absent =>
    cases red with
    | opened r => exact .inr ⟨rfl, congrArg _ h⟩
    | _ => cases h

/-- an image is served keyless only when no candidate was there at all (no fault is taken for absence) -/
theorem keyless_only_if_absent (adj red : OpenRes) (h : keyDecision adj red = .notFound)
    (ha : adj ≠ .opened .notFound) (hr : red ≠ .opened .notFound) : adj = .absent ∧ red = .absent := by
  cases adj with
  | opened r => exact absurd (congrArg _ h) ha
  | ioerr => cases h
  | absent =>
    cases red with
    | opened r => exact absurd (congrArg _ h) hr
    | ioerr => cases h
    | absent => exact ⟨rfl, rfl⟩

/-- without faults the decision is the modelled lookup (`redumpKey`, the function the differential ties
    to the code): the two candidates are the key beside the image and the one under REDKEY -/
theorem redumpKey_is_decision (w : World) (p : Path) (name : Bytes) (idx : Nat)
    (hl : p.getLast? = some name) (he : lowerBytes (extOf name) = lowerBytes Gen.fs_isoExt)
    (hi : p.findIdx? (fun c => lowerBytes c == lowerBytes Gen.fs_ps3isoDir) = some idx) :
    redumpKey w p = keyDecision (OpenRes.ofStat (keyAt w (p.dropLast ++ [dkeyName name])))
      (OpenRes.ofStat (keyAt w ((p.set idx Gen.fs_redkeyDir).dropLast ++ [dkeyName name]))) := by
  simp only [redumpKey, hl, he, hi, bne_self_eq_false, Bool.false_eq_true, if_false]
  cases keyAt w (p.dropLast ++ [dkeyName name]) <;>
    cases keyAt w ((p.set idx Gen.fs_redkeyDir).dropLast ++ [dkeyName name]) <;> rfl

end KeyLookup

end Ps3.Props.C13
