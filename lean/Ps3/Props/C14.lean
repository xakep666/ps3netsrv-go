/-
  C14 — IP range specifications denote exactly the documented address set.
-/
import Ps3.Proof.IPBlock
namespace Ps3.Props.C14
open Ps3.IPRange Ps3.Spec.IPRange Ps3.Proof.IPRange Ps3.Proof.IPBlock

/-- `bytes.Compare` on equal-length big-endian byte strings is numeric comparison. -/
theorem cmpBytes_numeric (a b : Bytes) (h : a.length = b.length) :
    cmpBytes a b = compare (fromBE a) (fromBE b) := by
  induction a generalizing b with
  | nil => cases b <;> simp_all [cmpBytes, fromBE, fromLE]
  | cons x xs ih =>
    cases b with
    | nil => simp at h
    | cons y ys =>
      rw [List.length_cons, List.length_cons, Nat.add_right_cancel_iff] at h
      have hx := fromBE_lt xs
      rw [fromBE_cons, fromBE_cons, h, cmpBytes]
      rw [h] at hx
      simp only [UInt8.lt_iff_toNat_lt]
      split
      · rename_i hlt
        exact (Nat.compare_eq_lt.mpr (digit_lt hlt hx)).symm
      · split
        · rename_i hgt
          exact (Nat.compare_eq_gt.mpr (digit_lt hgt (fromBE_lt ys))).symm
        · rw [ih ys h, show x.toNat = y.toNat by omega]
          simp [Nat.compare_eq_ite_lt]

/-- Membership is exactly "numerically between the bounds" for every well-formed range and
    every 16-byte address. -/
theorem contains_iff_between (r : Range) (ip : Bytes)
    (hl : r.left.length = 16) (hr : r.right.length = 16) (hip : ip.length = 16) :
    contains r ip = true ↔ range (addrNat r.left) (addrNat r.right) (addrNat ip) := by
  rw [contains, to16_sixteen hip]
  dsimp only
  rw [cmpBytes_numeric ip r.left (by omega), cmpBytes_numeric ip r.right (by omega)]
  simp only [range, addrNat, Bool.and_eq_true, bne_iff_ne, ne_eq]
  rw [Nat.compare_eq_lt, Nat.compare_eq_gt]
  omega

/-- An IPv4 address and its IPv4-mapped IPv6 form are treated alike, for every range. -/
theorem v4_mapped_alike (r : Range) (ip4 : Bytes) (h : ip4.length = 4) :
    contains r ip4 = contains r (v4InV6Prefix ++ ip4) := by
  simp [contains, to16, h, v4InV6Prefix]

/-- A reversed range is rejected, whatever the addresses. -/
theorem reversed_rejected (s : Bytes) (i : Nat) (l r : Bytes)
    (hl : parseIP (s.take i) = some l) (hr : parseIP (s.drop (i + 1)) = some r)
    (hgt : cmpBytes l r = .gt) : parseTwo s i = none := by
  simp [parseTwo, hl, hr, hgt]

/-- Mixed-family bounds are rejected. -/
theorem mixed_family_rejected (s : Bytes) (i : Nat) (l r : Bytes)
    (hl : parseIP (s.take i) = some l) (hr : parseIP (s.drop (i + 1)) = some r)
    (hmix : (to4 l).isSome ≠ (to4 r).isSome) : parseTwo s i = none := by
  simp [parseTwo, hl, hr, hmix]

/-- A bound that is not an address makes the whole range specification invalid. -/
theorem bad_bound_rejected (s : Bytes) (i : Nat)
    (h : parseIP (s.take i) = none ∨ parseIP (s.drop (i + 1)) = none) : parseTwo s i = none := by
  rcases h with h | h
  · simp [parseTwo, h]
  · cases hh : parseIP (s.take i) <;> simp [parseTwo, h, hh]

/-- the textual address parser (model of net.ParseIP) always yields the 16-byte form, so every
    accepted bound is a 128-bit number and `contains_iff_between` applies to every parsed range -/
theorem parsed_address_is_16_bytes (s a : Bytes) (h : parseIP s = some a) : a.length = 16 := by
  revert h
  fun_cases parseIP s
  case case1 =>                                       -- dotted quad: the 12-byte prefix and 4 octets
    intro h
    obtain ⟨f, hf, rfl⟩ := Option.map_eq_some_iff.mp h
    rw [List.length_append, parseV4_len hf]; rfl
  case case2 => exact parseV6_len
  case case3 => rintro ⟨⟩

/-- a contiguous mask is the prefix mask of its length (so the two notations cannot disagree) -/
theorem contiguous_mask_is_prefix (m : Bytes) (ones : Nat) (h : simpleMaskLength m = some ones) :
    m = cidrMask m.length ones ∧ ones ≤ 8 * m.length := by
  fun_induction simpleMaskLength m generalizing ones
  case case1 => cases h; exact ⟨rfl, Nat.le_refl _⟩
  case case2 v rest hv ih =>                          -- a 0xff byte: eight more ones
    obtain ⟨k, hk, rfl⟩ := Option.map_eq_some_iff.mp h
    obtain ⟨e, b⟩ := ih k hk
    rw [List.length_cons, cidrMask_succ, Nat.min_eq_right (Nat.le_add_left 8 k), Nat.add_sub_cancel, ← e, eq_of_beq hv]
    exact ⟨rfl, by omega⟩
  case case4 v rest _ d hd hall =>                    -- the boundary byte, then zero bytes only
    cases h
    obtain ⟨e, b⟩ := byteOnes_spec hd
    have hz : rest = List.replicate rest.length 0 := List.eq_replicate_iff.mpr ⟨rfl, fun x hx => eq_of_beq (List.all_eq_true.mp hall x hx)⟩
    rw [List.length_cons, cidrMask_succ, Nat.min_eq_left b, Nat.sub_eq_zero_of_le b, cidrMask_zero, ← hz, ← e]
    exact ⟨rfl, by omega⟩
  all_goals cases h

/-- The numeric interval the code computes for an address and a prefix length **is** the documented
    block: the aligned 2^h addresses around the address (host bits of the base address ignored),
    without network and broadcast address when the block has more than two addresses (h ≥ 2), with
    both when h ≤ 1 — for IPv4 (32 bits) and IPv6 (128 bits), every address, every prefix length. -/
theorem block_denotes (addr : Bytes) (p : Nat) (hL : addr.length = 4 ∨ addr.length = 16) (hp : p ≤ 8 * addr.length)
    (x : Nat) :
    (fromBE (blockRange addr (cidrMask addr.length p) p).left ≤ x ∧
      x ≤ fromBE (blockRange addr (cidrMask addr.length p) p).right) ↔
      block (fromBE addr) (8 * addr.length - p) x := by
  have hh : p + (8 * addr.length - p) = 8 * addr.length := by omega
  generalize 8 * addr.length - p = h at hh ⊢
  have hl := bytesAnd_length (cidrMask_length addr.length p).symm
  have htw : ((addr.length == 4 && decide (p < 31)) || (addr.length == 16 && decide (p < 127))) = true ↔ 2 ≤ h := by
    rcases hL with e | e <;> rw [e] at hh ⊢ <;> simp <;> omega
  unfold blockRange block
  dsimp only
  -- in both cases `and_cidr` gives the network address `net`, `ornot_cidr` the broadcast address `net + (2^h - 1)`: it
  -- is taken of `net`, and flooring what is floored already changes nothing (`Nat.mul_div_cancel`)
  by_cases h2 : 2 ≤ h
  · -- left is net + 1, right is broadcast - 1: net is a multiple of 4. `omega` is shown that by writing `2^h` as
    -- `2^k * 2 * 2` and net, which is a quotient times `2^h`, as `m * 2 * 2`
    obtain ⟨k, rfl⟩ : ∃ k, h = k + 2 := ⟨h - 2, by omega⟩
    rw [if_pos (htw.mpr h2), fromBE_setLastBit _ (List.ne_nil_of_length_pos (by omega)), fromBE_clearLastBit,
      ornot_cidr _ hl hh, and_cidr addr rfl hh, Nat.mul_div_cancel _ (Nat.pow_pos (by decide)),
      Nat.pow_succ, Nat.pow_succ, ← Nat.mul_assoc, ← Nat.mul_assoc]
    generalize fromBE addr / _ * _ = m
    have := Nat.pow_pos (n := k) (show 0 < 2 by decide)
    omega
  · rw [if_neg (mt htw.mp h2), ornot_cidr _ hl hh, and_cidr addr rfl hh, Nat.mul_div_cancel _ (Nat.pow_pos (by decide))]
    have := Nat.pow_pos (n := h) (show 0 < 2 by decide)
    omega

/-- "a.b.c.d/p" is accepted for every p ≤ 32 and stored as that block in IPv4-mapped form … -/
theorem cidr_v4_parsed (s : Bytes) (i : Nat) (addr a4 : Bytes) (p : Nat)
    (hsep : (i == s.length - 1) = false)
    (haddr : parseIP (s.take i) = some addr) (h4 : to4 addr = some a4)
    (hnoip : parseIP (s.drop (i + 1)) = none) (hp : prefixLenOf (s.drop (i + 1)) = some (p : Int)) (hp32 : p ≤ 32) :
    parseCIDRorMask s i = some ⟨v4InV6Prefix ++ (blockRange a4 (cidrMask 4 p) p).left,
                                v4InV6Prefix ++ (blockRange a4 (cidrMask 4 p) p).right⟩ := by
  have ha4 := to4_len h4
  have hl := blockRange_length p ha4 (cidrMask_length 4 p)
  have hr : ¬ ((p : Int) < 0 ∨ 32 < (p : Int)) := by omega
  unfold parseCIDRorMask
  simp [hsep, haddr, h4, hnoip, hp, ha4, hr, to16_four hl.1, to16_four hl.2]

/-- … a contiguous netmask with `ones` leading one bits yields exactly the same block as "/ones" … -/
theorem mask_v4_parsed (s : Bytes) (i : Nat) (addr a4 m m4 : Bytes) (ones : Nat)
    (hsep : (i == s.length - 1) = false)
    (haddr : parseIP (s.take i) = some addr) (h4 : to4 addr = some a4)
    (hm : parseIP (s.drop (i + 1)) = some m) (hm4 : to4 m = some m4)
    (hones : simpleMaskLength m4 = some ones) :
    parseCIDRorMask s i = some ⟨v4InV6Prefix ++ (blockRange a4 (cidrMask 4 ones) ones).left,
                                v4InV6Prefix ++ (blockRange a4 (cidrMask 4 ones) ones).right⟩ := by
  have ha4 := to4_len h4
  have e := (contiguous_mask_is_prefix m4 ones hones).1
  rw [to4_len hm4] at e
  subst e
  have hl := blockRange_length ones ha4 (cidrMask_length 4 ones)
  unfold parseCIDRorMask
  simp [hsep, haddr, h4, hm, hm4, ha4, hones, to16_four hl.1, to16_four hl.2]

/-- … and membership in it, for any 16-byte address, is membership of the corresponding IPv4
    address in the documented block (no IPv6 address outside ::ffff:0:0/96 is ever a member). -/
theorem cidr_v4_membership (a4 : Bytes) (p : Nat) (h4 : a4.length = 4) (hp : p ≤ 32) (ip : Bytes) (hip : ip.length = 16) :
    contains ⟨v4InV6Prefix ++ (blockRange a4 (cidrMask 4 p) p).left, v4InV6Prefix ++ (blockRange a4 (cidrMask 4 p) p).right⟩ ip = true ↔
      ∃ y, addrNat ip = v4Base + y ∧ block (fromBE a4) (32 - p) y := by
  have hl := blockRange_length p h4 (cidrMask_length 4 p)
  rw [contains_iff_between _ _ (by simp [hl.1, v4InV6Prefix]) (by simp [hl.2, v4InV6Prefix]) hip]
  have hs := fun y => block_denotes a4 p (Or.inl h4) (by omega) y
  simp only [h4, Nat.reduceMul] at hs
  simp only [range, addrNat, v4_embed hl.1, v4_embed hl.2, ← hs]
  exact ⟨fun h => ⟨fromBE ip - v4Base, by omega⟩, fun ⟨y, h⟩ => by omega⟩

/-- IPv6 "addr/p" -/
theorem cidr_v6_parsed (s : Bytes) (i : Nat) (addr : Bytes) (p : Nat)
    (hsep : (i == s.length - 1) = false)
    (haddr : parseIP (s.take i) = some addr) (h4 : to4 addr = none)
    (hnoip : parseIP (s.drop (i + 1)) = none) (hp : prefixLenOf (s.drop (i + 1)) = some (p : Int)) (hp128 : p ≤ 128) :
    parseCIDRorMask s i = some (blockRange addr (cidrMask 16 p) p) := by
  have h16 := parsed_address_is_16_bytes _ addr haddr
  have hl := blockRange_length p h16 (cidrMask_length 16 p)
  have hr : ¬ ((p : Int) < 0 ∨ 128 < (p : Int)) := by omega
  unfold parseCIDRorMask
  simp [hsep, haddr, h4, hnoip, hp, h16, hr, to16_sixteen hl.1, to16_sixteen hl.2]

theorem cidr_v6_membership (addr : Bytes) (p : Nat) (h16 : addr.length = 16) (hp : p ≤ 128) (ip : Bytes) (hip : ip.length = 16) :
    contains (blockRange addr (cidrMask 16 p) p) ip = true ↔ block (fromBE addr) (128 - p) (addrNat ip) := by
  have hl := blockRange_length p h16 (cidrMask_length 16 p)
  rw [contains_iff_between _ _ hl.1 hl.2 hip]
  have := block_denotes addr p (Or.inr h16) (by omega) (addrNat ip)
  rwa [h16] at this

/-- Out-of-range prefix lengths, non-contiguous masks and tails that are neither are rejected. -/
theorem bad_prefix_rejected (s : Bytes) (i : Nat) (addr : Bytes) (p : Int)
    (haddr : parseIP (s.take i) = some addr)
    (hnoip : parseIP (s.drop (i + 1)) = none) (hp : prefixLenOf (s.drop (i + 1)) = some p)
    (hbad : p < 0 ∨ p > 8 * (((match to4 addr with | some a => a | none => addr).length : Nat) : Int)) :
    parseCIDRorMask s i = none := by
  -- the `match` on `to4 addr` here and the one in the model are different matchers: decide it
  cases h4 : to4 addr <;> simp only [h4] at hbad <;> simp [parseCIDRorMask, haddr, hnoip, hp, h4, hbad]

theorem bad_mask_rejected (s : Bytes) (i : Nat) (addr m m4 : Bytes)
    (haddr : parseIP (s.take i) = some addr)
    (hm : parseIP (s.drop (i + 1)) = some m) (hm4 : to4 m = some m4) (hnone : simpleMaskLength m4 = none) :
    parseCIDRorMask s i = none := by
  simp [parseCIDRorMask, haddr, hm, hm4, hnone]

theorem bad_tail_rejected (s : Bytes) (i : Nat)
    (hnoip : parseIP (s.drop (i + 1)) = none) (hp : prefixLenOf (s.drop (i + 1)) = none) :
    parseCIDRorMask s i = none := by
  simp only [parseCIDRorMask, hnoip, hp]
  split
  · rfl
  · split <;> rfl

/-- a signed number after the slash (plus 8, minus 0) is not a prefix length: rejected like any other tail
    that is neither a number nor a mask (net.ParseCIDR does the same) -/
theorem signed_prefix_rejected (s : Bytes) (i : Nat) (sign : UInt8) (rest : Bytes)
    (hsign : sign = 43 ∨ sign = 45) (htail : s.drop (i + 1) = sign :: rest)
    (hnoip : parseIP (s.drop (i + 1)) = none) : parseCIDRorMask s i = none := by
  apply bad_tail_rejected s i hnoip
  rw [htail]
  rcases hsign with rfl | rfl <;> rfl

/-- non-vacuity: 192.0.2.77/24 is [192.0.2.1, 192.0.2.254]; /31 keeps both addresses -/
example : block (192 * 2 ^ 24 + 2 * 2 ^ 8 + 77) 8 (192 * 2 ^ 24 + 2 * 2 ^ 8 + 1) ∧
          ¬ block (192 * 2 ^ 24 + 2 * 2 ^ 8 + 77) 8 (192 * 2 ^ 24 + 2 * 2 ^ 8 + 255) ∧
          block 10 1 11 ∧ block 10 1 10 := by
  unfold block; decide

/-- "192.0.2.10-192.0.2.0" -/
example : parseIPRange [49, 57, 50, 46, 48, 46, 50, 46, 49, 48, 45, 49, 57, 50, 46, 48, 46, 50, 46, 48] = none := by decide
/-- "192.0.2.0/24" -/
example : (parseIPRange [49, 57, 50, 46, 48, 46, 50, 46, 48, 47, 50, 52]).isSome = true := by decide

end Ps3.Props.C14
