/-
  C08 (fourth part) — the four path tables sit where the layout says, inside the generated image, and a
  reader gets back exactly the entries written: one per directory, pointing at that directory's extent.
  The PS3 region table in sector 0 decodes, by the decrypting reader's decoder (C10), to the whole volume.
-/
import Ps3.Props.C07
import Ps3.Props.C08b
import Ps3.Props.C08c
import Ps3.Props.C10
namespace Ps3.Props.C08
open Ps3.Viso Ps3.Spec.IsoDir Ps3.Proof.IsoTree Ps3.Proof.BuildWF Ps3.Props.C07

/-- first sector of a path table: after the three descriptors and the blank sector come the primary L and M
    tables, then the Joliet L and M tables -/
def ptLoc (L : Layout) (joliet big : Bool) : Nat :=
  ptL + (if joliet then 2 * L.ptSecs else 0) + (if big then (if joliet then L.ptJSecs else L.ptSecs) else 0)

def ptSecsOf (L : Layout) (joliet : Bool) : Nat := if joliet then L.ptJSecs else L.ptSecs

def tableOf (L : Layout) (joliet : Bool) : List PtEntry := pathTable L.items L.rootLen joliet (dirBase L joliet)

/-- **Each of the four path tables occupies exactly its sectors of the image**: the bytes at `ptLoc` are
    the encoding of the hierarchy's table in the respective byte order. -/
theorem path_table_at_its_location (w : World) (root : Path) (ps3 : Bool) (clk : Clock) (filler : Bytes) (L : Layout)
    (hL : layoutOf w root ps3 = some L) (joliet big : Bool) :
    slice (imageBytes w L ps3 clk filler) (ptLoc L joliet big * sectorSize) (ptSecsOf L joliet * sectorSize) =
      encodePt (tableOf L joliet) big := by
  -- the table is piece `k` of the metadata area, which starts at sector `ptLoc` and is `ptSecsOf` sectors long
  obtain ⟨k, hk, ho, hn⟩ : ∃ k, (metaSegs L ps3 clk filler)[k]? = some (encodePt (tableOf L joliet) big) ∧
      ((metaSecs L).take k).sum = ptLoc L joliet big ∧ (metaSecs L)[k]? = some (ptSecsOf L joliet) := by
    cases joliet <;> cases big
    · exact ⟨5, rfl, by simp +arith [metaSecs, ptLoc, ptL], rfl⟩
    · exact ⟨6, rfl, by simp +arith [metaSecs, ptLoc, ptL], rfl⟩
    · exact ⟨7, rfl, by simp +arith [metaSecs, ptLoc, ptL], rfl⟩
    · exact ⟨8, rfl, by simp +arith [metaSecs, ptLoc, ptL], rfl⟩
  rw [imageBytes_eq, metaBytes_segs]
  exact Proof.Seg.seg_at (metaSegs_lens (layoutOf_facts hL)) k hk
    (by rw [Proof.Seg.sum_take_mul, ho]) (by rw [List.getElem?_map, hn]; rfl) _

/-- **A reader of a path table gets back exactly the table**: read with the size the descriptor announces,
    each of the four tables of a generated image decodes to the hierarchy's entries — one per directory of
    the image, in directory order, each pointing at that directory's extent. Hypothesis: every entry is
    representable (`PtOk`: identifier of 1..255 bytes, i.e. no directory with an empty name; location below
    2^32; parent number below 2^16 — the latter two always hold for an accepted tree). -/
theorem path_table_reads_back (w : World) (root : Path) (ps3 : Bool) (clk : Clock) (filler : Bytes) (L : Layout)
    (hL : layoutOf w root ps3 = some L) (joliet big : Bool) (hok : ∀ e ∈ tableOf L joliet, PtOk e) :
    decodePt (slice (imageBytes w L ps3 clk filler) (ptLoc L joliet big * sectorSize) (ptSecsOf L joliet * sectorSize))
      (ptSize (tableOf L joliet)) big = tableOf L joliet ∧
    ∀ e ∈ tableOf L joliet, ∃ i, i < L.items.length ∧ e.loc = locOf L joliet i := by
  refine ⟨?_, path_table_points_to_dirs _ _ _ _⟩
  rw [path_table_at_its_location w root ps3 clk filler L hL joliet big,
    ← encodePt_body_length _ big (fun e he => Nat.lt_succ_of_le (hok e he).ident.2), List.length_flatten, List.map_map]
  exact path_table_roundtrip _ hok big

/-- **The descriptor announces its path tables truthfully**: bytes 132..139 carry the table size (both byte
    orders), bytes 140..143 the location of the L table (little endian), bytes 148..151 the location of the
    M table (big endian) — exactly the values the tables were laid out with. -/
theorem descriptor_path_table_fields {typ : Nat} {joliet : Bool} {volumeName : Bytes} {volSectors ptBytes lLoc mLoc : Nat}
    {rootRec : DirRec} {clk : Clock} (hr : rootRec.encode.length ≤ 34) :
    let d := volumeDescriptor typ joliet volumeName volSectors ptBytes lLoc mLoc rootRec clk
    slice d 132 8 = lsbmsb 4 ptBytes ∧ slice d 140 4 = leN 4 lLoc ∧ slice d 148 4 = beN 4 mLoc :=
  ⟨desc_field hr 10 rfl (by decide) rfl, desc_field hr 11 rfl (by decide) rfl, desc_field hr 13 rfl (by decide) rfl⟩

/-- … for the descriptors of a generated image these are `ptLoc` of the respective table -/
theorem descriptors_announce_path_tables (L : Layout) (clk : Clock) :
    slice (pvdOf L clk) 140 4 = leN 4 (ptLoc L false false) ∧ slice (pvdOf L clk) 148 4 = beN 4 (ptLoc L false true) ∧
    slice (svdOf L clk) 140 4 = leN 4 (ptLoc L true false) ∧ slice (svdOf L clk) 148 4 = beN 4 (ptLoc L true true) := by
  -- what `ptLoc` evaluates to in the four cases: the sectors `pvdOf` and `svdOf` pass as `lLoc` and `mLoc`
  show slice (pvdOf L clk) 140 4 = leN 4 ptL ∧ slice (pvdOf L clk) 148 4 = beN 4 (ptL + L.ptSecs) ∧
    slice (svdOf L clk) 140 4 = leN 4 (ptL + 2 * L.ptSecs) ∧
    slice (svdOf L clk) 148 4 = beN 4 (ptL + 2 * L.ptSecs + L.ptJSecs)
  exact ⟨(descriptor_path_table_fields rootRecOf_encode_length_le).2.1, (descriptor_path_table_fields rootRecOf_encode_length_le).2.2,
    (descriptor_path_table_fields rootRecOf_encode_length_le).2.1, (descriptor_path_table_fields rootRecOf_encode_length_le).2.2⟩

/-- **The writer and the reader of region tables agree**: the table a generated PS3 image carries in
    sector 0, decoded by the decrypting reader's own table decoder, is ONE plain region from sector 0
    to the volume's LAST sector — under the reader's (inclusive) reading of `End` exactly the whole
    volume. (With the exclusive reading the reader used to have, the image's last sector would have
    counted as lying outside every plain region.) -/
theorem ranges_sector_decodes (L : Layout) (hv : L.volSectors - 1 < 2 ^ 32) :
    Crypt.decodeTable (fun off n => slice (rangesSector L) off n) = some [⟨0, L.volSectors - 1⟩] := by
  -- the sector is the table of one region in the disc format, then padding
  obtain ⟨pad, hr⟩ : ∃ pad, rangesSector L = C10.encodeTable [⟨0, L.volSectors - 1⟩] ++ pad :=
    ⟨List.replicate (sectorSize - 16) 0, by simp [rangesSector, padTo, C10.encodeTable]⟩
  rw [hr]
  exact C10.table_roundtrip [⟨0, L.volSectors - 1⟩] (show 1 ≤ 255 by decide) (by simpa using hv) pad

end Ps3.Props.C08
