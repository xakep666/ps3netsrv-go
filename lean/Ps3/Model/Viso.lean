/-
  The on-the-fly ISO 9660 + Joliet (+PS3) generator of pkg/fs (virtual_iso.go, virtual_iso_items.go,
  iso9660.go, iso9660_encoder.go, sfo.go) over the abstract world.

  `build` produces the in-memory metadata area (`fsBuf`) and the list of file extents; `Image.read`
  is the three-zone read; `Image.flat`-style specifications live in Spec/Viso.lean.
  The two volume timestamps and the PS3 sector-1 filler are parameters (`now`, `filler`).
-/
import Ps3.Base.Text
import Ps3.Model.World
import Ps3.Gen.Facts

namespace Ps3.Viso
open Ps3.Text

def sectorSize : Nat := Gen.fs_sectorSize

/-- sizeBytes.sectors(): ceil -/
def sectors (b : Nat) : Nat := b / sectorSize + (if b % sectorSize > 0 then 1 else 0)

theorem sectorSize_eq : sectorSize = 2048 := rfl

theorem sectors_mul_ge (b : Nat) : b ≤ sectors b * sectorSize := by
  unfold sectors; rw [sectorSize_eq]
  split <;> omega

theorem sectors_mul_eq_of_dvd (b : Nat) (h : b % sectorSize = 0) : sectors b * sectorSize = b := by
  unfold sectors; rw [sectorSize_eq] at *
  simp [h]; omega

/-! ### names -/

def inSet (set : Bytes) (r : Nat) : Bool := r < 128 && set.contains (UInt8.ofNat r)

/-- mangleStrD1 on runes: keep d1-characters, everything else becomes '_' -/
def mangleD1 (rs : List Nat) : Bytes :=
  rs.map (fun r => if inSet Gen.fs_d1Characters r then UInt8.ofNat r else 95)

/-- UTF-16BE of an ASCII string -/
def utf16be (s : Bytes) : Bytes := (s.map (fun c => [0, c])).flatten

/-- makeIdentifier -/
def makeIdentifier (name : Bytes) (joliet : Bool) : Bytes :=
  let rs := runes name
  let rs := if joliet then rs else rs.map toUpperRune
  let limit := if joliet then Gen.fs_maxJolietIdentifierChars else Gen.fs_maxIdentifierChars
  let m := mangleD1 (rs.take limit)
  if joliet then utf16be m else m

/-- mangleStrA / mangleStrD: keep characters of the set, upper-case what then falls into it, else '_' -/
def mangleUpper (set : Bytes) (name : Bytes) (joliet : Bool) : Bytes :=
  let m := (runes name).map (fun r =>
    if inSet set r then UInt8.ofNat r
    else if inSet set (toUpperRune r) then UInt8.ofNat (toUpperRune r) else 95)
  if joliet then utf16be m else m

/-- appendString(s, fixedLen, padding) for `s.length ≤ fixedLen` -/
def padTo (s : Bytes) (n : Nat) (pad : UInt8) : Bytes := s ++ List.replicate (n - s.length) pad

theorem padTo_length {s : Bytes} {n : Nat} {p : UInt8} (h : s.length ≤ n) : (padTo s n p).length = n := by
  simp [padTo]; omega

/-! ### timestamps -/

/-- recordingTimestamp.encode in UTC -/
def recTime (t : Nat) : Bytes :=
  let (y, m, d, hh, mm, ss) := civil t
  [UInt8.ofNat (y - 1900), UInt8.ofNat m, UInt8.ofNat d, UInt8.ofNat hh, UInt8.ofNat mm, UInt8.ofNat ss, 0]

def digits (w n : Nat) : Bytes :=
  (List.range w).reverse.map (fun i => UInt8.ofNat (48 + (n / 10 ^ i) % 10))

/-- volumeDescriptorTimestamp.encode: 16 digits + offset byte -/
def volTime (t : Nat) (hundredths : Nat) : Bytes :=
  let (y, m, d, hh, mm, ss) := civil t
  digits 4 y ++ digits 2 m ++ digits 2 d ++ digits 2 hh ++ digits 2 mm ++ digits 2 ss ++ digits 2 hundredths ++ [0]

/-- the zero value of volumeDescriptorTimestamp -/
def volTimeZero : Bytes := List.replicate 16 48 ++ [0]

theorem digits_length (w n : Nat) : (digits w n).length = w := by simp [digits]

theorem volTime_length (t h : Nat) : (volTime t h).length = 17 := by
  unfold volTime
  simp [digits_length]

/-! ### directory records -/

structure DirRec where
  extLoc : Nat
  extLen : Nat
  time : Bytes
  flags : Nat
  ident : Bytes
deriving Repr

def DirRec.size (r : DirRec) : Nat := 33 + r.ident.length + (r.ident.length + 1) % 2

def DirRec.encode (r : DirRec) : Bytes :=
  [UInt8.ofNat r.size, 0] ++ lsbmsb 4 r.extLoc ++ lsbmsb 4 r.extLen ++ r.time ++
  [UInt8.ofNat r.flags, 0, 0] ++ lsbmsb 2 1 ++ [UInt8.ofNat r.ident.length] ++ r.ident ++
  (if (r.ident.length + 1) % 2 > 0 then [0] else [])

/-- directoryEntryGap -/
def recGap (pos : Nat) (r : DirRec) : Nat :=
  let free := sectorSize - pos % sectorSize
  if r.size > free then free else 0

/-- directoryEntriesSize -/
def recsSize (rs : List DirRec) : Nat := rs.foldl (fun pos r => pos + recGap pos r + r.size) 0

/-- writeDirEntries: records with gaps, last sector padded -/
def encodeRecs (rs : List DirRec) : Bytes :=
  let body := rs.foldl (fun (acc : Bytes) r => acc ++ zeros (recGap acc.length r) ++ r.encode) []
  body ++ zeros (sectors body.length * sectorSize - body.length)

/-! ### scan -/

structure FileRef where
  ino : Nat
  name : Bytes
  size : Nat
  rLBA : Nat        -- relative to the start of the file area, in sectors
  mtime : Nat
deriving Repr

structure DirItem where
  path : Path
  name : Bytes
  mtime : Nat
  files : List FileRef
deriving Repr

def dirNames (w : World) (real : Path) : List Name := (w.childrenOf real).map (·.1)

/-- process the entries of one directory: files get consecutive sector runs, directories are pushed -/
def scanEntries (w : World) (path : Path) : List Name → List FileRef → List Path → Nat →
    Option (List FileRef × List Path × Nat)
  | [], files, stack, s => some (files, stack, s)
  | n :: rest, files, stack, s =>
    match w.stat (path ++ [n]) with
    | none => none                               -- Stat error aborts the whole build
    | some (_, .dir _) => scanEntries w path rest files (stack ++ [path ++ [n]]) s
    | some (_, .file i) =>
      match w.inode? i with
      | none => none
      | some f =>
        scanEntries w path rest (files ++ [⟨i, n, f.content.size, s, f.mtime⟩]) stack (s + sectors f.content.size)
    | some _ => none

/-- scanDirectory: a stack (last pushed is processed first) -/
def scan (w : World) : Nat → List Path → List DirItem → Nat → Option (List DirItem × Nat)
  | _, [], acc, s => some (acc, s)
  | 0, _, _, _ => none
  | fuel + 1, stack, acc, s =>
    match stack.getLast? with
    | none => some (acc, s)
    | some path =>
      match w.stat path with
      | some (q, .dir mt) =>
        match scanEntries w path (dirNames w q) [] stack.dropLast s with
        | none => none
        | some (files, stack', s') =>
          scan w fuel stack' (acc ++ [⟨path, path.getLast?.getD [], mt, files⟩]) s'
      | _ => none

/-! ### records of every directory -/

def multiExtentPart : Nat := Gen.fs_multiExtentPartSize
def maxPart : Nat := Gen.fs_maxPartSize

/-- the record(s) of one file: several extents when it does not fit 32 bits -/
def fileRecs (f : FileRef) (joliet : Bool) (filesLBA : Nat) : List DirRec :=
  let ident := makeIdentifier f.name joliet
  let tm := recTime f.mtime
  if f.size > maxPart then
    let parts := f.size / multiExtentPart + (if f.size % multiExtentPart > 0 then 1 else 0)
    (List.range parts).map (fun i =>
      let lba := f.rLBA + i * sectors multiExtentPart + filesLBA
      if i == parts - 1 then ⟨lba, f.size - i * multiExtentPart, tm, 0, ident⟩
      else ⟨lba, multiExtentPart, tm, Gen.fs_dirFlagMultiExtent, ident⟩)
  else [⟨f.rLBA + filesLBA, f.size, tm, 0, ident⟩]

def parentIdx (items : List DirItem) (it : DirItem) (rootLen : Nat) : Option Nat :=
  if it.path.length ≤ rootLen then none
  else items.findIdx? (fun p => p.path == it.path.dropLast)

def childrenIdx (items : List DirItem) (it : DirItem) : List Nat :=
  (List.range items.length).filter (fun j =>
    j ≥ 1 && match items[j]? with
      | some c => c.path.dropLast == it.path && c.path.length == it.path.length + 1
      | none => false)

theorem eq_concat_iff {α : Type} (l m : List α) (d : α) :
    l.dropLast = m ∧ l.length = m.length + 1 ↔ l = m ++ [l.getLast?.getD d] := by
  rcases List.eq_nil_or_concat l with rfl | ⟨l', a, rfl⟩ <;> simp +contextual

theorem mem_childrenIdx {items : List DirItem} {it c : DirItem} {j : Nat} (hc : items[j]? = some c) :
    j ∈ childrenIdx items it ↔ 1 ≤ j ∧ c.path = it.path ++ [c.path.getLast?.getD []] := by
  obtain ⟨hlt, rfl⟩ := List.getElem?_eq_some_iff.mp hc
  simp [childrenIdx, hlt, ← eq_concat_iff]

/-- record shapes of one directory with placeholder locations (sizes depend on identifiers only) -/
def shapeRecs (items : List DirItem) (it : DirItem) (joliet : Bool) : List DirRec :=
  [⟨0, 0, recTime it.mtime, 2, [0]⟩, ⟨0, 0, recTime it.mtime, 2, [1]⟩] ++
  (it.files.map (fun f => fileRecs f joliet 0)).flatten ++
  (childrenIdx items it).filterMap (fun j => items[j]?.map (fun c => ⟨0, 0, recTime c.mtime, 2, makeIdentifier c.name joliet⟩))

/-- sectors occupied by each directory of one hierarchy -/
def dirSectors (items : List DirItem) (joliet : Bool) : List Nat :=
  items.map (fun it => sectors (recsSize (shapeRecs items it joliet)))

def prefixSum (l : List Nat) (k : Nat) : Nat := (l.take k).sum

/-- final records of directory `k` -/
def finalRecs (items : List DirItem) (rootLen : Nat) (joliet : Bool) (dirLBA filesLBA : Nat) (k : Nat) (it : DirItem) :
    List DirRec :=
  let secs := dirSectors items joliet
  let loc (j : Nat) : Nat := prefixSum secs j + dirLBA
  let len (j : Nat) : Nat := (secs[j]?.getD 0) * sectorSize
  let dot : DirRec := ⟨loc k, len k, recTime it.mtime, 2, [0]⟩
  let dotdot : DirRec :=
    match parentIdx items it rootLen with
    | some p => ⟨loc p, len p, recTime ((items[p]?.map (·.mtime)).getD 0), 2, [1]⟩
    | none => ⟨loc k, len k, recTime it.mtime, 2, [1]⟩
  [dot, dotdot] ++
  (it.files.map (fun f => fileRecs f joliet filesLBA)).flatten ++
  (childrenIdx items it).filterMap (fun j =>
    items[j]?.map (fun c => ⟨loc j, len j, recTime c.mtime, 2, makeIdentifier c.name joliet⟩))

/-! ### path tables -/

structure PtEntry where
  loc : Nat
  parent : Nat
  ident : Bytes

def PtEntry.size (e : PtEntry) : Nat :=
  let idLen := e.ident.length % 256
  8 + idLen + (if idLen % 2 > 0 then 1 else 0)

def PtEntry.encode (e : PtEntry) (big : Bool) : Bytes :=
  [UInt8.ofNat e.ident.length, 0] ++ (if big then beN 4 e.loc else leN 4 e.loc) ++
  (if big then beN 2 e.parent else leN 2 e.parent) ++ e.ident ++ (if e.ident.length % 2 > 0 then [0] else [])

def pathTable (items : List DirItem) (rootLen : Nat) (joliet : Bool) (dirLBA : Nat) : List PtEntry :=
  let secs := dirSectors items joliet
  ((List.range items.length).take Gen.fs_pathTableItemsLimit).filterMap (fun i =>
    items[i]?.map (fun it =>
      let ident := if i == 0 then [0] else makeIdentifier it.name joliet
      let parent := if i == 0 then 1 else ((parentIdx items it rootLen).map (· + 1)).getD 0
      ⟨prefixSum secs i + dirLBA, parent, ident⟩))

def ptSize (t : List PtEntry) : Nat := (t.map (·.size)).sum

def encodePt (t : List PtEntry) (big : Bool) : Bytes :=
  let body := (t.map (fun e => e.encode big)).flatten
  body ++ zeros (sectors body.length * sectorSize - body.length)

/-! ### volume descriptors -/

structure Clock where
  now : Nat            -- Unix seconds of time.Now()
  hundredths : Nat

/-- descriptor body up to (not including) the creation timestamp -/
def descBodyPre (joliet : Bool) (volumeName : Bytes) (volSectors : Nat) (ptBytes : Nat)
    (lLoc mLoc : Nat) (rootRec : DirRec) : Bytes :=
  let volId := (mangleUpper Gen.fs_dCharacters volumeName joliet).take 32
  [0] ++ padTo (mangleUpper Gen.fs_aCharacters [108, 105, 110, 117, 120] joliet) 32 32 ++   -- runtime.GOOS = "linux"
  padTo volId 32 32 ++ zeros 8 ++ lsbmsb 4 volSectors ++
  padTo (if joliet then [37, 47, 64] else []) 32 0 ++
  lsbmsb 2 1 ++ lsbmsb 2 1 ++ lsbmsb 2 sectorSize ++ lsbmsb 4 ptBytes ++
  leN 4 lLoc ++ leN 4 0 ++ beN 4 mLoc ++ beN 4 0 ++
  padTo rootRec.encode 34 0 ++
  padTo volId 128 32 ++ padTo [] 128 32 ++ padTo [] 128 32 ++
  padTo [112, 115, 51, 110, 101, 116, 115, 114, 118] 128 32 ++        -- "ps3netsrv"
  padTo [] 37 32 ++ padTo [] 37 32 ++ padTo [] 37 32

/-- … and after the modification timestamp: expiration, effective (both unset), version, reserved, application use -/
def descBodyPost : Bytes := volTimeZero ++ volTimeZero ++ [1, 0] ++ zeros 512

def descHeader (typ : Nat) : Bytes := [UInt8.ofNat typ] ++ Gen.fs_standardIdentifierBytes.map UInt8.ofNat ++ [1]

def volumeDescriptor (typ : Nat) (joliet : Bool) (volumeName : Bytes) (volSectors : Nat) (ptBytes : Nat)
    (lLoc mLoc : Nat) (rootRec : DirRec) (clk : Clock) : Bytes :=
  descHeader typ ++
  padTo (descBodyPre joliet volumeName volSectors ptBytes lLoc mLoc rootRec ++
         (volTime clk.now clk.hundredths ++ (volTime clk.now clk.hundredths ++ descBodyPost))) (sectorSize - 7) 0

def terminatorDescriptor : Bytes :=
  [255] ++ Gen.fs_standardIdentifierBytes.map UInt8.ofNat ++ [1] ++ zeros (sectorSize - 7)

/-! ### PARAM.SFO (sfo.go) -/

def leAt (b : Bytes) (off w : Nat) : Option Nat :=
  let s := slice b off w
  if s.length == w then some (fromLE s) else none

/-- bytes up to (not including) the first NUL at/after `off`; none if there is no NUL among the
    first `sfoMaxKeyLen` bytes (the key is read through an io.LimitReader) -/
def cstrAt (b : Bytes) (off : Nat) : Option Bytes :=
  let t := (b.drop off).take Gen.fs_sfoMaxKeyLen
  if t.contains 0 then some (t.takeWhile (· != 0)) else none

/-- the entry of `field`: (declared length, data offset, stored in the not-terminated format 0x0004) -/
def sfoLoop (b : Bytes) (keyStart : Nat) (field : Bytes) : Nat → Nat → Option (Option (Nat × Nat × Bool))
  | 0, _ => some none
  | n + 1, i =>
    let eo := 20 + i * 16
    match leAt b eo 2, leAt b (eo + 4) 4, leAt b (eo + 12) 4 with
    | some keyOff, some dataLen, some dataOff =>
      if (slice b eo 16).length != 16 then none else
      match cstrAt b ((keyStart + keyOff) % 2 ^ 32) with
      | none => none
      | some key =>
        if key == field then
          some (some (dataLen, dataOff, (leAt b (eo + 2) 2).getD 0 == Gen.fs_sfoFormatUTF8NotTerminated))
        else sfoLoop b keyStart field n (i + 1)
    | _, _, _ => none

/-- sfoField: none = error -/
def sfoField (b : Bytes) (field : Bytes) : Option Bytes :=
  if (slice b 0 20).length != 20 then none else
  if slice b 0 4 != Gen.fs_sfoMagic.map UInt8.ofNat then none else
  match leAt b 8 4, leAt b 12 4, leAt b 16 4 with
  | some keyStart, some dataStart, some count =>
    match sfoLoop b keyStart field count 0 with
    | none => none
    | some none => none
    | some (some (dataLen, dataOff, notTerminated)) =>
      if dataLen > Gen.fs_sfoMaxValueLen then none      -- the declared length never drives an allocation
      -- a not-terminated string occupies all of its declared length; the usual format ends with a NUL
      -- that is not part of the value (io.CopyN with a count of -1 or 0 copies nothing)
      else
        let n := if notTerminated then dataLen else dataLen - 1
        let v := slice b (dataStart + dataOff) n
        if v.length == n then some v else none
  | _, _, _ => none

/-! ### the image -/

structure FileExt where
  ino : Nat
  size : Nat
  lba : Nat            -- absolute
deriving Repr

structure Image where
  fsBuf : Bytes
  files : List FileExt
  padAreaStart : Nat
  padAreaSize : Nat
  totalSize : Nat
deriving Repr

def paramSfoPath : Path := [[80, 83, 51, 95, 71, 65, 77, 69], [80, 65, 82, 65, 77, 46, 83, 70, 79]]
def titleIdKey : Bytes := [84, 73, 84, 76, 69, 95, 73, 68]

def scanFuel : Nat := 100000

/-- everything about an image that does not depend on the clock or on randomness -/
structure Layout where
  items : List DirItem
  rootLen : Nat
  volumeName : Bytes
  gameCode : Bytes
  ptSecs : Nat
  ptJSecs : Nat
  isoLBA : Nat
  jolietLBA : Nat
  filesLBA : Nat
  volumeSize : Nat       -- sectors up to the end of the last file
  padSectors : Nat
  volSectors : Nat

/-- TITLE_ID of PS3_GAME/PARAM.SFO (PS3 mode only); none = the open fails -/
def gameCodeOf (w : World) (root : Path) (ps3 : Bool) : Option Bytes :=
  if ps3 then
    match w.stat (root ++ paramSfoPath) with
    | some (_, .file i) =>
      match w.inode? i with
      | some f =>
        match sfoField f.content.all titleIdKey with
        | some c => if c.length < 4 || c.length > 31 then none else some c
        | none => none
      | none => none
    | _ => none
  else some []

/-- a TITLE_ID is used only if it has 4..31 bytes (`gameCode[:4]` and the 32-byte product-id field rely on it) -/
theorem gameCodeOf_bounds {w : World} {root : Path} {ps3 : Bool} {c : Bytes} :
    gameCodeOf w root ps3 = some c → c.length ≤ 31 ∧ (ps3 = true → 4 ≤ c.length) := by
  fun_cases gameCodeOf w root ps3
  case case2 hb =>                                     -- a TITLE_ID that passed the length test
    rintro ⟨⟩; simp only [Bool.or_eq_true, decide_eq_true_eq, not_or, Nat.not_lt] at hb; exact ⟨hb.2, fun _ => hb.1⟩
  case case6 hps => rintro ⟨⟩; exact ⟨Nat.zero_le _, fun h => absurd h hps⟩   -- not PS3 mode: the empty code
  all_goals rintro ⟨⟩

/-- the product code XXXX-YYYYY made from such a TITLE_ID fits its 32-byte field -/
theorem productCode_length_le {c : Bytes} (h : c.length ≤ 31) : (c.take 4 ++ [45] ++ c.drop 4).length ≤ 32 := by
  simp; omega

/-- calculateSizes: at least one pad granule, and the volume ends on a granule boundary -/
def padSectorsFor (volumeSize : Nat) : Nat :=
  Gen.fs_basePadSectors +
    (if volumeSize % Gen.fs_basePadSectors > 0 then Gen.fs_basePadSectors - volumeSize % Gen.fs_basePadSectors else 0)

/-- the largest sector number the server can represent (sizeSectors is int32) -/
def maxSector : Nat := 2 ^ 31 - 1

/-- buildFSStructures up to calculateSizes: scan and LBA arithmetic -/
def layoutRaw (w : World) (root : Path) (ps3 : Bool) : Option Layout :=
  match w.stat root with
  | some (_, .dir _) =>
    match gameCodeOf w root ps3 with
    | none => none
    | some gameCode =>
      match scan w scanFuel [root] [] 0 with
      | none => none
      | some (items, filesSectors) =>
        let rootLen := root.length
        let ptSecs := sectors (ptSize (pathTable items rootLen false 0))
        let ptJSecs := sectors (ptSize (pathTable items rootLen true 0))
        let isoLBA := 16 + 3 + 1 + ptSecs * 2 + ptJSecs * 2
        let jolietLBA := isoLBA + (dirSectors items false).sum
        let filesLBA := jolietLBA + (dirSectors items true).sum
        let volumeSize := filesLBA + filesSectors
        let padSectors := padSectorsFor volumeSize
        some { items := items, rootLen := rootLen,
               volumeName := if ps3 then Gen.fs_ps3ModeVolumeName else root.getLast?.getD [],
               gameCode := gameCode, ptSecs := ptSecs, ptJSecs := ptJSecs, isoLBA := isoLBA, jolietLBA := jolietLBA,
               filesLBA := filesLBA, volumeSize := volumeSize, padSectors := padSectors,
               volSectors := volumeSize + padSectors }
  | _ => none

/-- sector numbers are int32: a tree that does not fit (with the largest possible padding) is refused -/
def layoutOf (w : World) (root : Path) (ps3 : Bool) : Option Layout :=
  match layoutRaw w root ps3 with
  | none => none
  | some L =>
    if L.volumeSize + 2 * Gen.fs_basePadSectors > maxSector then none
    -- directory numbers in the path table are 16-bit: a tree with more directories is refused
    else if L.items.length > Gen.fs_pathTableItemsLimit then none
    else some L

theorem layoutOf_some {w : World} {root : Path} {ps3 : Bool} {L : Layout} (h : layoutOf w root ps3 = some L) :
    layoutRaw w root ps3 = some L ∧ L.volumeSize + 2 * Gen.fs_basePadSectors ≤ maxSector ∧
      L.items.length ≤ Gen.fs_pathTableItemsLimit := by
  revert h
  fun_cases layoutOf w root ps3
  case case4 hr hc hd =>                              -- both limits hold: the raw layout is returned
    rintro ⟨⟩; exact ⟨hr, Nat.le_of_not_lt hc, Nat.le_of_not_lt hd⟩
  all_goals rintro ⟨⟩

theorem layoutOf_inv {w : World} {root : Path} {ps3 : Bool} {L : Layout} (h : layoutOf w root ps3 = some L) :
    ∃ fsec, gameCodeOf w root ps3 = some L.gameCode ∧ scan w scanFuel [root] [] 0 = some (L.items, fsec) ∧
      L.rootLen = root.length ∧
      L.ptSecs = sectors (ptSize (pathTable L.items L.rootLen false 0)) ∧
      L.ptJSecs = sectors (ptSize (pathTable L.items L.rootLen true 0)) ∧
      L.isoLBA = 16 + 3 + 1 + L.ptSecs * 2 + L.ptJSecs * 2 ∧
      L.jolietLBA = L.isoLBA + (dirSectors L.items false).sum ∧
      L.filesLBA = L.jolietLBA + (dirSectors L.items true).sum ∧
      L.volumeSize = L.filesLBA + fsec ∧ L.padSectors = padSectorsFor L.volumeSize ∧
      L.volSectors = L.volumeSize + L.padSectors := by
  have h := (layoutOf_some h).1
  revert h
  fun_cases layoutRaw w root ps3
  case case3 =>                                        -- game code and scan succeeded: the fields are read off
    rintro ⟨⟩; exact ⟨_, ‹_›, ‹_›, rfl, rfl, rfl, rfl, rfl, rfl, rfl, rfl, rfl⟩
  all_goals rintro ⟨⟩

def Layout.recsOf (L : Layout) (joliet : Bool) (dirLBA : Nat) : List (List DirRec) :=
  (List.range L.items.length).filterMap (fun k =>
    L.items[k]?.map (finalRecs L.items L.rootLen joliet dirLBA L.filesLBA k))

def rootRecOf (rs : List (List DirRec)) : DirRec := ((rs.head?.bind (·.head?)).getD ⟨0, 0, [], 0, []⟩)

/-- PS3 sector 0: one plain region covering the whole volume -/
def rangesSector (L : Layout) : Bytes :=
  padTo (beN 4 1 ++ zeros 4 ++ beN 4 0 ++ beN 4 (L.volSectors - 1)) sectorSize 0

/-- PS3 sector 1 before the random filler: console id, product code XXXX-YYYYY, 16 zero bytes -/
def infoHead (L : Layout) : Bytes :=
  padTo Gen.fs_consoleID 16 32 ++ padTo (L.gameCode.take 4 ++ [45] ++ L.gameCode.drop 4) 32 32 ++ zeros 16

/-- sectors 0–15: PS3 disc-range and disc-info sectors, or zeros -/
def sysArea (L : Layout) (ps3 : Bool) (filler : Bytes) : Bytes :=
  if ps3 then
    rangesSector L ++ (padTo (infoHead L ++ padTo (filler.take 0x1C0) 0x1C0 0) sectorSize 0 ++ zeros (14 * sectorSize))
  else zeros (16 * sectorSize)

def ptL : Nat := 16 + 3 + 1

def pvdOf (L : Layout) (clk : Clock) : Bytes :=
  volumeDescriptor 1 false L.volumeName L.volSectors (ptSize (pathTable L.items L.rootLen false 0)) ptL (ptL + L.ptSecs)
    (rootRecOf (L.recsOf false L.isoLBA)) clk

def svdOf (L : Layout) (clk : Clock) : Bytes :=
  volumeDescriptor 2 true L.volumeName L.volSectors (ptSize (pathTable L.items L.rootLen true 0))
    (ptL + 2 * L.ptSecs) (ptL + 2 * L.ptSecs + L.ptJSecs) (rootRecOf (L.recsOf true L.jolietLBA)) clk

/-- everything after the three descriptors and the blank sector: path tables and directories -/
def tablesAndDirs (L : Layout) : Bytes :=
  let pt := pathTable L.items L.rootLen false L.isoLBA
  let ptJ := pathTable L.items L.rootLen true L.jolietLBA
  encodePt pt false ++ encodePt pt true ++ encodePt ptJ false ++ encodePt ptJ true ++
  ((L.recsOf false L.isoLBA).map encodeRecs).flatten ++ ((L.recsOf true L.jolietLBA).map encodeRecs).flatten

/-- writeFSStructures: the in-memory metadata area -/
def metaBytes (L : Layout) (ps3 : Bool) (clk : Clock) (filler : Bytes) : Bytes :=
  sysArea L ps3 filler ++ pvdOf L clk ++ svdOf L clk ++ terminatorDescriptor ++ zeros sectorSize ++ tablesAndDirs L

/-- collectFiles: the non-empty files in layout order -/
def Layout.files (L : Layout) : List FileExt :=
  ((L.items.map (·.files)).flatten.filter (fun f => f.size != 0)).map
    (fun f => (⟨f.ino, f.size, f.rLBA + L.filesLBA⟩ : FileExt))

def imageOf (L : Layout) (ps3 : Bool) (clk : Clock) (filler : Bytes) : Image :=
  ⟨metaBytes L ps3 clk filler, L.files, L.volumeSize * sectorSize, L.padSectors * sectorSize, L.volSectors * sectorSize⟩

/-- NewVirtualISO(fs, root, ps3Mode); `filler` are the 0x1C0 random bytes of PS3 sector 1 -/
def build (w : World) (root : Path) (ps3 : Bool) (clk : Clock) (filler : Bytes) : Option Image :=
  (layoutOf w root ps3).map (fun L => imageOf L ps3 clk filler)

/-! ### reads -/

/-- the file zone, from the file containing `off` onwards (VirtualISO.read's loop) -/
def readFiles (cf : Nat → Content) : List FileExt → Nat → Nat → Bytes
  | [], _, _ => []
  | f :: rest, off, remain =>
    if remain == 0 then [] else
    let start := f.lba * sectorSize
    let padded := sectors f.size * sectorSize
    let fo := off - start
    let data := if fo < f.size then (cf f.ino).read fo (min remain (f.size - fo)) else []
    let off1 := off + data.length
    let rem1 := remain - data.length
    let padN := if f.size % sectorSize > 0 ∧ rem1 > 0 then min (start + padded - off1) rem1 else 0
    data ++ zeros padN ++ readFiles cf rest (off1 + padN) (rem1 - padN)

/-- VirtualISO.read(buf of length n, off): the bytes delivered -/
def Image.read (img : Image) (cf : Nat → Content) (off n : Nat) : Bytes :=
  if off ≥ img.totalSize ∨ n == 0 then [] else
  let part1 := if off < img.fsBuf.length then slice img.fsBuf off n else []
  let off1 := off + part1.length
  let rem1 := n - part1.length
  if off1 ≥ img.totalSize ∨ rem1 == 0 then part1 else
  let part2 :=
    if off1 < img.padAreaStart then
      -- filesToRead: the file whose padded extent contains the sector of off1, and its successors
      let target := off1 / sectorSize
      let fs := img.files.dropWhile (fun f => target ≥ f.lba + sectors f.size)
      if fs.isEmpty then []
      else if target < (fs.head?.map (·.lba)).getD 0 then []   -- "file location greater than offset": cannot happen
      else readFiles cf fs off1 rem1
    else []
  let off2 := off1 + part2.length
  let rem2 := rem1 - part2.length
  let part3 :=
    if off2 ≥ img.padAreaStart ∧ off2 < img.totalSize then
      zeros (min (img.padAreaSize - (off2 - img.padAreaStart)) rem2)
    else []
  part1 ++ part2 ++ part3

/-! ### Read / Seek / ReadAt as the afero.File methods expose them -/

inductive Op where
  | readAt (n : Nat) (off : Nat)
  | read (n : Nat)
  | seek (off : Int) (whence : Nat)

inductive Obs where
  | data (b : Bytes) (eof : Bool)     -- bytes returned; eof = the call reported io.EOF
  | pos (p : Nat)                      -- successful Seek
  | err                                -- failed Seek
deriving DecidableEq

/-- one call against a byte source with a cursor: `rd` is the positioned read, `total` the size -/
def stepOp (rd : Nat → Nat → Bytes) (total : Nat) (cur : Nat) : Op → Nat × Obs
  | .readAt n off => (cur, .data (rd off n) (off ≥ total ∨ n == 0))
  | .read n => let d := rd cur n; (cur + d.length, .data d (cur ≥ total ∨ n == 0))
  | .seek off whence =>
    let target : Option Int :=
      if whence == 0 then some off
      else if whence == 1 then some (off + cur)
      else if whence == 2 then some ((total : Int) + off)
      else none
    match target with
    | none => (cur, .err)
    | some t => if t < 0 ∨ t > total then (cur, .err) else (t.toNat, .pos t.toNat)

def runOps (rd : Nat → Nat → Bytes) (total : Nat) : Nat → List Op → List Obs
  | _, [] => []
  | cur, op :: rest => let r := stepOp rd total cur op; r.2 :: runOps rd total r.1 rest

end Ps3.Viso
