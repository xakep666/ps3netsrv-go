/-
  The filesystem as the code sees it *inside the served root*: a flat, ordered list of entries
  keyed by their component path. The order of the list is the order in which the OS returns
  directory entries (the harness reads it back from getdents), so enumeration order is part of
  the world and not an assumption.

  Content of regular files is a function with a length (`Content`): a deterministic pattern plus
  explicit overlays, so that multi-GiB sparse files are ordinary values.
-/
import Ps3.Base.Bytes

namespace Ps3

/-- deterministic file pattern shared with the Go harness -/
def patByte (seed i : Nat) : UInt8 :=
  if seed == 4294967295 then 0 else
  UInt8.ofNat ((seed + i * 131 + (i / 251) * 7 + (i / 65521) * 3) % 256)

structure Overlay where
  off : Nat
  data : Bytes
deriving Repr

/-- file content: `size` bytes of pattern `seed`, overwritten by the overlays (later ones win) -/
structure Content where
  size : Nat
  seed : Nat
  overlays : List Overlay := []
deriving Repr

namespace Content

def ovAt (ovs : List Overlay) (i : Nat) : Option UInt8 :=
  ovs.foldl (fun acc o => if o.off ≤ i ∧ i < o.off + o.data.length then o.data[i - o.off]? else acc) none

/-- byte `i` of the content (meaningful for `i < size`) -/
def byteAt (c : Content) (i : Nat) : UInt8 :=
  match ovAt c.overlays i with
  | some b => b
  | none => patByte c.seed i

/-- overwrite `base` (which stands for positions `[start, start+base.length)`) with overlay `o` -/
def applyOverlay (start : Nat) (base : Bytes) (o : Overlay) : Bytes :=
  let lo := max start o.off                       -- first affected position
  let hi := min (start + base.length) (o.off + o.data.length)
  if lo < hi then
    base.take (lo - start) ++ slice o.data (lo - o.off) (hi - lo) ++ base.drop (hi - start)
  else base

/-- `c[off : off+n]` clipped to the size — what a correct read of that range returns -/
def read (c : Content) (off n : Nat) : Bytes :=
  let len := min n (c.size - off)
  let base := (List.range len).map (fun k => patByte c.seed (off + k))
  c.overlays.foldl (applyOverlay off) base

def ofBytes (b : Bytes) : Content := { size := b.length, seed := 0, overlays := [⟨0, b⟩] }

def all (c : Content) : Bytes := c.read 0 c.size

end Content

abbrev Name := Bytes
abbrev Path := List Name   -- components below the root; [] is the root itself

/-- what a regular file's name refers to; it stays alive while a handle is open even after the
    name is removed (POSIX unlink semantics) -/
structure Inode where
  content : Content
  mtime : Nat
deriving Repr

inductive Node where
  | file (ino : Nat)              -- index into `World.inodes`
  | dir (mtime : Nat)
  | link (target : Path)          -- symlink whose target is the given path below the root
  | linkOut                        -- symlink that does not resolve (dangling)
deriving Repr

structure Entry where
  path : Path
  node : Node
deriving Repr

/-- the world: entries in OS enumeration order, plus the root directory's mtime -/
structure World where
  entries : List Entry
  inodes : List Inode := []
  rootMtime : Nat := 0
  /-- the served root directory itself was removed (RMDIR "/" on an empty root) -/
  rootGone : Bool := false
deriving Repr

namespace World

def lookupRaw (w : World) (p : Path) : Option Node :=
  if w.rootGone then none
  else if p.isEmpty then some (.dir w.rootMtime)
  else (w.entries.find? (fun e => e.path == p)).map (·.node)

/-- Linux follows at most 40 symbolic links while resolving one path (MAXSYMLINKS); the next one is ELOOP -/
def maxSymlinks : Nat := 40

/-- resolve symlinks in every component (as `stat` does). `links` counts the links followed so far;
    `fuel` only makes the recursion structural (it never runs out: see `stepFuel`) -/
def resolve (w : World) : Nat → Nat → Path → Path → Option Path
  | _, _, acc, [] => some acc
  | 0, _, _, _ => none
  | fuel + 1, links, acc, c :: rest =>
    let p := acc ++ [c]
    match w.lookupRaw p with
    | none => none
    | some (.link t) => if links ≥ maxSymlinks then none else w.resolve fuel (links + 1) [] (t ++ rest)
    | some .linkOut => none
    | some (.file _) => if rest.isEmpty then some p else none
    | some (.dir _) => w.resolve fuel links p rest

/-- more steps than any resolution can take: every followed link costs one of the 40 and the
    components of paths and targets are bounded by PATH_MAX -/
def stepFuel : Nat := 1000000

/-- `stat`: follows symlinks; none = ENOENT/ENOTDIR/ELOOP -/
def stat (w : World) (p : Path) : Option (Path × Node) :=
  match w.resolve stepFuel 0 [] p with
  | none => none
  | some q => (w.lookupRaw q).map (fun n => (q, n))

def isDir (w : World) (p : Path) : Bool :=
  match w.stat p with
  | some (_, .dir _) => true
  | _ => false

/-- names in directory `p` (already resolved), in enumeration order -/
def childrenOf (w : World) (p : Path) : List (Name × Node) :=
  w.entries.filterMap (fun e =>
    match e.path.getLast? with
    | none => none
    | some nm => if e.path.dropLast == p then some (nm, e.node) else none)

def hasChildren (w : World) (p : Path) : Bool := !(w.childrenOf p).isEmpty

/-- remove the entry at exactly `p` -/
def removeEntry (w : World) (p : Path) : World :=
  { w with entries := w.entries.filter (fun e => e.path != p) }

def addEntry (w : World) (e : Entry) : World := { w with entries := w.entries ++ [e] }

def inode? (w : World) (i : Nat) : Option Inode := w.inodes[i]?

def setInode (w : World) (i : Nat) (n : Inode) : World := { w with inodes := w.inodes.set i n }

/-- create a new regular file named `p` -/
def newFile (w : World) (p : Path) (c : Content) (mtime : Nat) : World :=
  { w with entries := w.entries ++ [⟨p, .file w.inodes.length⟩], inodes := w.inodes ++ [⟨c, mtime⟩] }

/-- content and mtime behind a name that is known to be a regular file -/
def fileOf (w : World) (n : Node) : Option Inode :=
  match n with
  | .file i => w.inode? i
  | _ => none

def setNode (w : World) (p : Path) (n : Node) : World :=
  { w with entries := w.entries.map (fun e => if e.path == p then { e with node := n } else e) }

end World

end Ps3
