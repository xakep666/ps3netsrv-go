/-
  Wire protocol: request decoding and response encoding, generic over the struct layouts that the
  extractor regenerates from pkg/proto/types.go (Gen.proto_layout_*). A reordered, resized or
  dropped field in the Go structs therefore changes this model.
-/
import Ps3.Base.Bytes
import Ps3.Gen.Facts

namespace Ps3.Proto

abbrev Layout := List (String × Nat)

def Layout.size (l : Layout) : Nat := (l.map (·.2)).sum

/-- byte offset and width of a named field -/
def Layout.field (l : Layout) (name : String) : Option (Nat × Nat) :=
  let rec go : Layout → Nat → Option (Nat × Nat)
    | [], _ => none
    | (n, sz) :: rest, off => if n == name then some (off, sz) else go rest (off + sz)
  go l 0

/-- big-endian unsigned value of a named field inside `data` (0 if the field is absent) -/
def getField (l : Layout) (name : String) (data : Bytes) : Nat :=
  match l.field name with
  | none => 0
  | some (off, sz) => fromBE (slice data off sz)

/-- encode a struct: every field big-endian in declaration order; a field without a value is zero.
    Values are given as naturals (already two's-complemented when negative) or raw bytes. -/
inductive FVal where
  | num (v : Nat)
  | raw (b : Bytes)

def encodeStruct (l : Layout) (vals : List (String × FVal)) : Bytes :=
  l.foldr (fun (f : String × Nat) acc =>
    let bytes : Bytes :=
      match vals.find? (fun v => v.1 == f.1) with
      | some (_, .num v) => beN f.2 v
      | some (_, .raw b) => (b.take f.2) ++ zeros (f.2 - (b.take f.2).length)
      | none => zeros f.2
    bytes ++ acc) []

theorem encodeStruct_length (l : Layout) (vals : List (String × FVal)) :
    (encodeStruct l vals).length = l.size := by
  unfold encodeStruct Layout.size
  induction l with
  | nil => rfl
  | cons f rest ih =>
    simp only [List.foldr_cons, List.map_cons, List.sum_cons, List.length_append, ih]
    congr 1
    split <;> simp
    omega

def neg1 (w : Nat) : Nat := 256 ^ w - 1

/-! ### requests -/

inductive Req where
  | openDir (p : Bytes) | readDir | readDirEntry | readDirEntryV2
  | statFile (p : Bytes) | openFile (p : Bytes)
  | readFile (limit off : Nat) | readFileCritical (limit off : Nat)
  | readCD (start count : Nat)
  | createFile (p : Bytes) | writeFile (announced : Nat) (payload : Bytes)
  | deleteFile (p : Bytes) | mkdir (p : Bytes) | rmdir (p : Bytes) | getDirSize (p : Bytes)
deriving Repr

inductive Decoded where
  | req (r : Req) (rest : Bytes)
  /-- fewer bytes than the command (or its announced path) needs: the read fails, connection ends -/
  | incomplete
  | unknown (op : Nat)
deriving Repr

def cmdSize : Nat := Layout.size Gen.proto_layout_Command

/-- the bytes of one request at the head of the stream -/
def decode (s : Bytes) : Decoded :=
  if s.length < cmdSize then .incomplete else
  let op := getField Gen.proto_layout_Command "OpCode" s
  let data := slice s ((Layout.field Gen.proto_layout_Command "Data").getD (2, 14)).1 14
  let rest := s.drop cmdSize
  let withPath (l : Layout) (fld : String) (mk : Bytes → Req) : Decoded :=
    let n := getField l fld data
    if rest.length < n then .incomplete else .req (mk (rest.take n)) (rest.drop n)
  if op == Gen.proto_CmdOpenDir then withPath Gen.proto_layout_OpenDirCommand "DpLen" .openDir
  else if op == Gen.proto_CmdReadDir then .req .readDir rest
  else if op == Gen.proto_CmdReadDirEntry then .req .readDirEntry rest
  else if op == Gen.proto_CmdReadDirEntryV2 then .req .readDirEntryV2 rest
  else if op == Gen.proto_CmdStatFile then withPath Gen.proto_layout_StatFileCommand "FpLen" .statFile
  else if op == Gen.proto_CmdOpenFile then withPath Gen.proto_layout_StatFileCommand "FpLen" .openFile
  else if op == Gen.proto_CmdReadFile then
    .req (.readFile (getField Gen.proto_layout_ReadFileCommand "BytesToRead" data)
                    (getField Gen.proto_layout_ReadFileCommand "Offset" data)) rest
  else if op == Gen.proto_CmdReadFileCritical then
    .req (.readFileCritical (getField Gen.proto_layout_ReadFileCommand "BytesToRead" data)
                            (getField Gen.proto_layout_ReadFileCommand "Offset" data)) rest
  else if op == Gen.proto_CmdReadCD2048Critical then
    .req (.readCD (getField Gen.proto_layout_ReadCD2048CriticalCommand "StartSector" data)
                  (getField Gen.proto_layout_ReadCD2048CriticalCommand "SectorsToRead" data)) rest
  else if op == Gen.proto_CmdCreateFile then withPath Gen.proto_layout_CreateFileCommand "FpLen" .createFile
  else if op == Gen.proto_CmdWriteFile then
    let n := getField Gen.proto_layout_WriteFileCommand "BytesToWrite" data
    -- a payload that ends before the announced length is a truncated request like any other
    if rest.length < n then .incomplete else .req (.writeFile n (rest.take n)) (rest.drop n)
  else if op == Gen.proto_CmdDeleteFile then withPath Gen.proto_layout_DeleteFileCommand "FpLen" .deleteFile
  else if op == Gen.proto_CmdMkdir then withPath Gen.proto_layout_MkdirCommand "DpLen" .mkdir
  else if op == Gen.proto_CmdRmdir then withPath Gen.proto_layout_RmdirCommand "DpLen" .rmdir
  else if op == Gen.proto_CmdGetDirSize then withPath Gen.proto_layout_GetDirSizeCommand "DpLen" .getDirSize
  else .unknown op

/-! ### responses -/

def result32 (l : Layout) (ok : Bool) : Bytes :=
  encodeStruct l [("Result", .num (if ok then 0 else neg1 4))]

def openDirResult (ok : Bool) : Bytes := result32 Gen.proto_layout_OpenDirResult ok
def createFileResult (ok : Bool) : Bytes := result32 Gen.proto_layout_CreateFileResult ok
def deleteFileResult (ok : Bool) : Bytes := result32 Gen.proto_layout_DeleteFileResult ok
def mkdirResult (ok : Bool) : Bytes := result32 Gen.proto_layout_MkdirResult ok
def rmdirResult (ok : Bool) : Bytes := result32 Gen.proto_layout_RmdirResult ok

def writeFileResult (written : Option Nat) : Bytes :=
  encodeStruct Gen.proto_layout_WriteFileResult
    [("BytesWritten", .num (match written with | some n => n | none => neg1 4))]

def getDirSizeResult (sz : Nat) : Bytes :=
  encodeStruct Gen.proto_layout_GetDirSizeResult [("Size", .num sz)]

def readFileResultHdr (n : Nat) : Bytes :=
  encodeStruct Gen.proto_layout_ReadFileResult [("BytesRead", .num n)]

/-- (size, mtime) or the error form -/
def openFileResult (r : Option (Nat × Nat)) : Bytes :=
  match r with
  | some (sz, mt) => encodeStruct Gen.proto_layout_OpenFileResult [("FileSize", .num sz), ("ModTime", .num mt)]
  | none => encodeStruct Gen.proto_layout_OpenFileResult [("FileSize", .num (neg1 8))]

structure Info where
  name : Bytes
  isDir : Bool
  size : Nat
  mtime : Nat
  ctime : Nat := 0   -- masked by the harness (atime/ctime are not compared)
  atime : Nat := 0
deriving Repr

def boolNum (b : Bool) : Nat := if b then 1 else 0

def statFileResult (r : Option Info) : Bytes :=
  match r with
  | none => encodeStruct Gen.proto_layout_StatFileResult [("FileSize", .num (neg1 8))]
  | some i => encodeStruct Gen.proto_layout_StatFileResult
      [("FileSize", .num (if i.isDir then 0 else i.size)), ("ModTime", .num i.mtime),
       ("ChangeTime", .num i.ctime), ("AccessTime", .num i.atime), ("IsDirectory", .num (boolNum i.isDir))]

def readDirEntryResult (r : Option Info) : Bytes :=
  match r with
  | none => encodeStruct Gen.proto_layout_ReadDirEntryResult [("FileSize", .num (neg1 8))]
  | some i =>
    encodeStruct Gen.proto_layout_ReadDirEntryResult
      [("FileSize", .num (if i.isDir then 0 else i.size)), ("FilenameLen", .num i.name.length),
       ("IsDirectory", .num (boolNum i.isDir))]
    ++ (if i.name.length % 65536 > 0 then i.name else [])

def readDirEntryV2Result (r : Option Info) : Bytes :=
  match r with
  | none => encodeStruct Gen.proto_layout_ReadDirEntryV2Result [("FileSize", .num (neg1 8))]
  | some i =>
    encodeStruct Gen.proto_layout_ReadDirEntryV2Result
      [("FileSize", .num (if i.isDir then 0 else i.size)), ("ModTime", .num i.mtime),
       ("ChangeTime", .num i.ctime), ("AccessTime", .num i.atime),
       ("FilenameLen", .num i.name.length), ("IsDirectory", .num (boolNum i.isDir))]
    ++ (if i.name.length % 65536 > 0 then i.name else [])

def dirEntry (i : Info) : Bytes :=
  encodeStruct Gen.proto_layout_DirEntry
    [("FileSize", .num (if i.isDir then 0 else i.size)), ("ModTime", .num i.mtime),
     ("IsDirectory", .num (boolNum i.isDir)), ("Name", .raw i.name)]

def readDirResult (es : List Info) : Bytes :=
  encodeStruct Gen.proto_layout_ReadDirResult [("Size", .num es.length)]
  ++ (es.map dirEntry).flatten

end Ps3.Proto
