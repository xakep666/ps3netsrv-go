/-
  One connection of the server: pkg/server (serveConn, handleCommand, handle*) and
  internal/handler (Handle*, State) over the abstract world.

  `step` is one request; `serve` is the byte-level loop of `serveConn`. Timestamps of objects the
  session itself creates or modifies are "now", which both the model and the harness render as the
  marker `recent`.
-/
import Ps3.Base.PathStr
import Ps3.Model.World
import Ps3.Model.Proto

namespace Ps3.Conn
open Ps3.Proto Ps3.PathStr

/-- marker for "mtime = time of this session" -/
def recent : Nat := 2 ^ 64 - 1

/-- a read-only object that is not a plain file: generated image, decrypting view, masked view -/
structure StaticView where
  size : Nat
  mtime : Nat
  /-- the bytes `[off, off+n)` clipped to `size` -/
  read : Nat → Nat → Bytes
  /-- Seek(off, SeekStart) succeeds (generated images refuse offsets beyond their end) -/
  seekOk : Nat → Bool

inductive RO where
  | plain (ino : Nat)           -- regular file: the inode, read live from the world
  | dir (p : Path)              -- a directory opened through OPEN_FILE
  | static (v : StaticView)

structure DirHandle where
  real : Path                   -- resolved directory
  named : Path                  -- the path it was opened under (handle.Name())
  remaining : Option (List Name) -- names not yet enumerated; none = nothing read yet

structure WO where
  ino : Nat                     -- inode of the file being written

structure State where
  cwd : Option DirHandle := none
  ro : Option RO := none
  cdSectorSize : Nat := 0
  wo : Option WO := none

structure Cfg where
  allowWrite : Bool
  /-- FS.OpenFile's wrapper selection for a read-only open of `path` (clean components):
      `none` = no wrapper applies (plain behaviour); `some none` = open error;
      `some (some v)` = serve this view -/
  wrap : World → Path → Option (Option StaticView)

/-- Whether a mutating handler may go on: writing was enabled — or the handler does not start with the
    AllowWrite guard at all. `guardFirst` is an F-shape fact regenerated from the source on every run
    (`Gen.handler_guardFirst_*`: an `if !h.AllowWrite { … return }` precedes every use of the file
    system in that handler); while it is `true` this is just `cfg.allowWrite` (`mayWrite_*` below). -/
def Cfg.mayWrite (cfg : Cfg) (guardFirst : Bool) : Bool := cfg.allowWrite || !guardFirst

@[simp] theorem mayWrite_create (cfg : Cfg) : cfg.mayWrite Gen.handler_guardFirst_HandleCreateFile = cfg.allowWrite :=
  Bool.or_false _
@[simp] theorem mayWrite_write (cfg : Cfg) : cfg.mayWrite Gen.handler_guardFirst_HandleWriteFile = cfg.allowWrite :=
  Bool.or_false _
@[simp] theorem mayWrite_delete (cfg : Cfg) : cfg.mayWrite Gen.handler_guardFirst_HandleDeleteFile = cfg.allowWrite :=
  Bool.or_false _
@[simp] theorem mayWrite_mkdir (cfg : Cfg) : cfg.mayWrite Gen.handler_guardFirst_HandleMkdir = cfg.allowWrite :=
  Bool.or_false _
@[simp] theorem mayWrite_rmdir (cfg : Cfg) : cfg.mayWrite Gen.handler_guardFirst_HandleRmdir = cfg.allowWrite :=
  Bool.or_false _

def maxName : Nat := 255

/-- a component the OS accepts as a new name -/
def nameOk (c : Name) : Bool := c.length ≤ maxName && !c.contains 0

def infoOf (w : World) (name : Name) (n : Node) : Option Info :=
  match n with
  | .file i => (w.inode? i).map (fun f => { name := name, isDir := false, size := f.content.size, mtime := f.mtime })
  | .dir mt => some { name := name, isDir := true, size := 0, mtime := mt }
  | _ => none

/-- Fs.Stat of a clean component path -/
def statInfo (w : World) (p : Path) : Option Info :=
  if !p.all nameOk then none else
  match w.stat p with
  | none => none
  | some (_, n) => infoOf w (p.getLast?.getD []) n

/-- size and mtime a read-only object announces -/
def roSize (w : World) : RO → Nat
  | .plain i => match w.inode? i with | some f => f.content.size | none => 0
  | .dir _ => 0
  | .static v => v.size

def RO.isDir : RO → Bool
  | .dir _ => true
  | _ => false

def roRead (w : World) (ro : RO) (off n : Nat) : Option Bytes :=
  match ro with
  | .plain i => match w.inode? i with | some f => some (f.content.read off n) | none => some []
  | .dir _ => if n == 0 then some [] else none   -- EISDIR, but a zero-length LimitReader never reads
  | .static v => some (v.read off n)

/-- largest offset lseek(2) accepts on the served filesystem (ext4 with 4 KiB blocks: 2^44 − 4096);
    an environment fact, probed by the harness on its scratch directory -/
def osSeekMax : Nat := 17592186040320

def roSeekOk (ro : RO) (off : Nat) : Bool :=
  if off ≥ 2 ^ 63 then false     -- int64(offset) < 0
  else match ro with
    | .static v => v.seekOk off
    | _ => off ≤ osSeekMax

/-- `osSeekMax < 2^63` -/
theorem roSeekOk_plain {i off : Nat} (h : off ≤ osSeekMax) : roSeekOk (.plain i) off = true := by
  have h63 : ¬ 2 ^ 63 ≤ off := fun h' => absurd (Nat.le_trans h' h) (by decide)
  simp [roSeekOk, h63, h]

/-! ### sector size detection (HandleOpenFile / determineSectorSize) -/

def probeLen : Nat :=
  Gen.handler_determineSectorSize_magic1.length + Gen.handler_determineSectorSize_extraBytes +
    Gen.handler_determineSectorSize_magic2.length

/-- the probed bytes carry the ISO 9660 signature, or (two bytes further) the PLAYSTATION one -/
def probeMatch (buf : Bytes) : Bool :=
  buf.take Gen.handler_determineSectorSize_magic1.length == Gen.handler_determineSectorSize_magic1 ||
  slice buf (Gen.handler_determineSectorSize_magic1.length + Gen.handler_determineSectorSize_extraBytes)
    Gen.handler_determineSectorSize_magic2.length == Gen.handler_determineSectorSize_magic2

/-- the loop of determineSectorSize: ReadAt at sector 16 of each candidate; a short read aborts -/
def detectGo (read : Nat → Nat → Bytes) : List Nat → Option Nat
  | [] => none
  | s :: rest =>
    let buf := read (Gen.handler_psxPrefixSize + Gen.handler_determineSectorSize_systemAreaSectors * s) probeLen
    if buf.length != probeLen then none
    else if probeMatch buf then some s
    else detectGo read rest

def detectSectorSizeStrict (read : Nat → Nat → Bytes) : Option Nat :=
  detectGo read Gen.handler_determineSectorSize_sectorSizes

def defaultSectorSize : Nat := 2352
def detectMin : Nat := 0x200000
def detectMax : Nat := 0x35000000

/-! ### directory enumeration -/

/-- names os.File.Readdirnames yields for a directory (never "." / "..") -/
def dirNames (w : World) (real : Path) : List Name := (w.childrenOf real).map (·.1)

/-- HandleReadDirEntry's loop: skip entries whose Stat fails; returns the entry and the rest -/
def nextEntry (w : World) (named : Path) : List Name → Option (Info × List Name)
  | [] => none
  | n :: rest =>
    match statInfo w (named ++ [n]) with
    | some i => some (i, rest)
    | none => nextEntry w named rest

/-! ### GET_DIR_SIZE: afero.Walk over Stat (follows symlinks), summing regular files -/

def dirSizeFuel : Nat := 128

/-- the largest amount a 32-bit signed length field can announce -/
def maxAnnounce : Nat := 2 ^ 31 - 1

def walkSize (w : World) : Nat → Path → Nat
  | 0, _ => 0
  | fuel + 1, p =>
    match w.stat p with
    | none => 0
    | some (_, .file i) => ((w.inode? i).map (·.content.size)).getD 0
    | some (q, .dir _) => ((dirNames w q).map (fun n => walkSize w fuel (p ++ [n]))).sum
    | some _ => 0

/-! ### one request -/

structure Out where
  bytes : Bytes
  close : Bool := false

def touchParent (w : World) (p : Path) : World :=
  let parent := p.dropLast
  if parent.isEmpty then { w with rootMtime := recent }
  else match w.lookupRaw parent with
    | some (.dir _) => w.setNode parent (.dir recent)
    | _ => w

/-- FS.Open for reading: virtual prefixes / wrappers first, then the plain object -/
def openRO (cfg : Cfg) (w : World) (p : Path) : Option RO :=
  match cfg.wrap w p with
  | some none => none
  | some (some v) => some (.static v)
  | none =>
    if !p.all nameOk then none else
    match w.stat p with
    | some (_, .file i) => some (.plain i)
    | some (q, .dir _) => some (.dir q)
    | _ => none

def isVirtual (p : Path) : Bool :=
  match p with
  | c :: _ :: _ => ([slash] ++ c == Gen.fs_virtualISOMask) || ([slash] ++ c == Gen.fs_virtualPS3ISOMask)
  | _ => false

def closeFileName : Bytes := [67, 76, 79, 83, 69, 70, 73, 76, 69]  -- "CLOSEFILE"

def step (cfg : Cfg) (w : World) (st : State) (r : Req) : World × State × Out :=
  match r with
  | .openDir raw =>
    let p := cleanRequest raw
    match openRO cfg w p with
    | none => (w, { st with cwd := none }, ⟨openDirResult false, false⟩)   -- the active directory is closed first, whatever follows
    | some (.dir q) => (w, { st with cwd := some ⟨q, p, none⟩ }, ⟨openDirResult true, false⟩)
    | some _ => (w, { st with cwd := none }, ⟨openDirResult false, false⟩)
  | .readDirEntry | .readDirEntryV2 =>
    let enc := match r with | .readDirEntry => readDirEntryResult | _ => readDirEntryV2Result
    match st.cwd with
    | none => (w, st, ⟨enc none, false⟩)
    | some h =>
      let names := h.remaining.getD (dirNames w h.real)
      match nextEntry w h.named names with
      | none => (w, { st with cwd := none }, ⟨enc none, false⟩)
      | some (i, rest) => (w, { st with cwd := some { h with remaining := some rest } }, ⟨enc (some i), false⟩)
  | .readDir =>
    match st.cwd with
    | none => (w, st, ⟨readDirResult [], false⟩)
    | some h =>
      let names := h.remaining.getD (dirNames w h.real)
      let infos := names.filterMap (fun n => statInfo w (h.named ++ [n]))
      (w, { st with cwd := some { h with remaining := some [] } }, ⟨readDirResult infos, false⟩)
  | .statFile raw =>
    (w, st, ⟨statFileResult (statInfo w (cleanRequest raw)), false⟩)
  | .openFile raw =>
    let p := cleanRequest raw
    if p == [closeFileName] then          -- only the reserved path /CLOSEFILE itself
      (w, { st with ro := none, cdSectorSize := if st.ro.isSome then 0 else st.cdSectorSize },
        ⟨openFileResult (some (0, 0)), false⟩)
    else
      match openRO cfg w p with
      | none => (w, { st with ro := none }, ⟨openFileResult none, false⟩)
      | some ro =>
        let size := roSize w ro
        let mtime : Nat :=
          match ro with
          | .plain i => match w.inode? i with | some f => f.mtime | none => 0
          | .dir q => match w.lookupRaw q with | some (.dir mt) => mt | _ => 0
          | .static v => v.mtime
        let cd :=
          if detectMin ≤ size ∧ size ≤ detectMax then
            match ro with
            | .dir _ => defaultSectorSize
            | _ => (detectSectorSizeStrict (fun off n => (roRead w ro off n).getD [])).getD defaultSectorSize
          else defaultSectorSize
        (w, { st with ro := some ro, cdSectorSize := cd }, ⟨openFileResult (some (size, mtime)), false⟩)
  | .readFile limit off =>
    -- a read that cannot be started is answered with -1 (nothing was announced yet); the connection goes on
    match st.ro with
    | none => (w, st, ⟨readFileResultHdr (neg1 4), false⟩)
    | some ro =>
      if ro.isDir then (w, st, ⟨readFileResultHdr (neg1 4), false⟩) else
      if off ≥ roSize w ro then (w, st, ⟨readFileResultHdr 0, false⟩) else   -- at or after the end: an empty answer, no seek at all
      if !roSeekOk ro off then (w, st, ⟨readFileResultHdr (neg1 4), false⟩) else
      -- the announced amount is an int32: a bigger request gets what can be announced
      match roRead w ro off (min limit maxAnnounce) with
      | none => (w, st, ⟨[], true⟩)
      | some data => (w, st, ⟨readFileResultHdr data.length ++ data, false⟩)
  | .readFileCritical limit off =>
    match st.ro with
    | none => (w, st, ⟨[], true⟩)
    | some ro =>
      if !roSeekOk ro off then (w, st, ⟨[], true⟩) else
      match roRead w ro off limit with
      | none => (w, st, ⟨[], true⟩)
      | some data => (w, st, ⟨data, data.length < limit⟩)
  | .readCD start count =>
    match st.ro with
    | none => (w, st, ⟨[], true⟩)
    | some ro =>
      if st.cdSectorSize == 0 then (w, st, ⟨[], true⟩) else
      let rec go : Nat → Nat → Bytes → Bytes × Bool
        | 0, _, acc => (acc, false)
        | k + 1, off, acc =>
          if !roSeekOk ro off then (acc, true) else
          match roRead w ro off Gen.handler_HandleReadCD2048Critical_readSize with
          | none => (acc, true)
          | some d =>
            if d.length < Gen.handler_HandleReadCD2048Critical_readSize then (acc ++ d, true)
            else go k (off + st.cdSectorSize) (acc ++ d)
      let (bytes, cl) := go count (Gen.handler_psxPrefixSize + start * st.cdSectorSize) []
      (w, st, ⟨bytes, cl⟩)
  | .createFile raw =>
    let p := cleanRequest raw
    if !cfg.mayWrite Gen.handler_guardFirst_HandleCreateFile then (w, st, ⟨createFileResult false, false⟩) else
    let st := { st with wo := none }
    if (statInfo w p).any (·.isDir) then (w, st, ⟨createFileResult true, false⟩)
    else if isVirtual p then (w, st, ⟨createFileResult false, false⟩)
    else if !p.all nameOk || p.isEmpty then (w, st, ⟨createFileResult false, false⟩)
    else
      -- O_CREATE|O_TRUNC|O_WRONLY follows a symlink in the last component
      match w.stat p with
      | some (_, .file i) =>
        (w.setInode i ⟨Content.ofBytes [], recent⟩, { st with wo := some ⟨i⟩ }, ⟨createFileResult true, false⟩)
      | some _ => (w, st, ⟨createFileResult false, false⟩)
      | none =>
        match w.stat p.dropLast, w.lookupRaw p with
        | some (pq, .dir _), none =>
          let q := pq ++ [p.getLast?.getD []]
          match w.lookupRaw q with
          | none =>
            let ino := w.inodes.length
            let w := touchParent (w.newFile q (Content.ofBytes []) recent) q
            (w, { st with wo := some ⟨ino⟩ }, ⟨createFileResult true, false⟩)
          | some _ => (w, st, ⟨createFileResult false, false⟩)
        | _, _ => (w, st, ⟨createFileResult false, false⟩)
  | .writeFile announced payload =>
    -- the written amount is reported as an int32: a payload that could not be reported is refused as a whole
    if announced > maxAnnounce then (w, st, ⟨writeFileResult none, false⟩) else
    if !cfg.mayWrite Gen.handler_guardFirst_HandleWriteFile then (w, st, ⟨writeFileResult none, false⟩) else
    match st.wo with
    | none => (w, st, ⟨writeFileResult none, false⟩)
    | some wo =>
      match w.inode? wo.ino with
      | some f =>
        (w.setInode wo.ino ⟨Content.ofBytes (f.content.all ++ payload), if payload.isEmpty then f.mtime else recent⟩, st,
          ⟨writeFileResult (some payload.length), false⟩)
      | none => (w, st, ⟨writeFileResult (some payload.length), false⟩)
  | .deleteFile raw =>
    let p := cleanRequest raw
    if !cfg.mayWrite Gen.handler_guardFirst_HandleDeleteFile then (w, st, ⟨deleteFileResult false, false⟩) else
    if (statInfo w p).any (·.isDir) then (w, st, ⟨deleteFileResult false, false⟩) else
    if !p.all nameOk || p.isEmpty then (w, st, ⟨deleteFileResult false, false⟩) else
    -- os.Remove acts on the name itself (lstat semantics for the last component)
    match w.stat p.dropLast with
    | some (pq, .dir _) =>
      let q := pq ++ [p.getLast?.getD []]
      match w.lookupRaw q with
      | some (.dir _) =>
        if w.hasChildren q then (w, st, ⟨deleteFileResult false, false⟩)
        else (touchParent (w.removeEntry q) q, st, ⟨deleteFileResult true, false⟩)
      | some _ => (touchParent (w.removeEntry q) q, st, ⟨deleteFileResult true, false⟩)
      | none => (w, st, ⟨deleteFileResult false, false⟩)
    | _ => (w, st, ⟨deleteFileResult false, false⟩)
  | .rmdir raw =>
    let p := cleanRequest raw
    if !cfg.mayWrite Gen.handler_guardFirst_HandleRmdir then (w, st, ⟨rmdirResult false, false⟩) else
    if p.isEmpty then (w, st, ⟨rmdirResult false, false⟩) else     -- the root itself is never removed
    if (statInfo w p).any (fun i => !i.isDir) then (w, st, ⟨rmdirResult false, false⟩) else
    if !p.all nameOk then (w, st, ⟨rmdirResult false, false⟩) else
    match w.stat p.dropLast with
    | some (pq, .dir _) =>
      let q := pq ++ [p.getLast?.getD []]
      match w.lookupRaw q with
      | some (.dir _) =>
        if w.hasChildren q then (w, st, ⟨rmdirResult false, false⟩)
        else (touchParent (w.removeEntry q) q, st, ⟨rmdirResult true, false⟩)
      | some _ => (touchParent (w.removeEntry q) q, st, ⟨rmdirResult true, false⟩)
      | none => (w, st, ⟨rmdirResult false, false⟩)
    | _ => (w, st, ⟨rmdirResult false, false⟩)
  | .mkdir raw =>
    let p := cleanRequest raw
    if !cfg.mayWrite Gen.handler_guardFirst_HandleMkdir then (w, st, ⟨mkdirResult false, false⟩) else
    if p.isEmpty then
      if w.rootGone then ({ w with rootGone := false, rootMtime := recent }, st, ⟨mkdirResult true, false⟩)
      else (w, st, ⟨mkdirResult false, false⟩)
    else
    if !p.all nameOk then (w, st, ⟨mkdirResult false, false⟩) else
    match w.stat p.dropLast with
    | some (pq, .dir _) =>
      let q := pq ++ [p.getLast?.getD []]
      match w.lookupRaw q with
      | none => (touchParent (w.addEntry ⟨q, .dir recent⟩) q, st, ⟨mkdirResult true, false⟩)
      | some _ => (w, st, ⟨mkdirResult false, false⟩)
    | _ => (w, st, ⟨mkdirResult false, false⟩)
  | .getDirSize raw =>
    let p := cleanRequest raw
    -- only an existing directory has a size to report
    match (if p.all nameOk then w.stat p else none) with
    | some (_, .dir _) => (w, st, ⟨getDirSizeResult (walkSize w dirSizeFuel p), false⟩)
    | _ => (w, st, ⟨getDirSizeResult (neg1 8), false⟩)

/-- A WRITE_FILE whose payload ends before the announced length: the announced length and the part
    of the payload that did arrive. -/
def truncatedWrite (input : Bytes) : Option (Nat × Bytes) :=
  if input.length < cmdSize then none else
  if getField Gen.proto_layout_Command "OpCode" input != Gen.proto_CmdWriteFile then none else
  let data := slice input ((Layout.field Gen.proto_layout_Command "Data").getD (2, 14)).1 14
  let n := getField Gen.proto_layout_WriteFileCommand "BytesToWrite" data
  let part := input.drop cmdSize
  if part.length < n then some (n, part) else none

/-- The payload is streamed into the file as it arrives, so what a truncated WRITE_FILE did deliver is
    in the file when the connection ends (no answer is sent): the only effect a truncated request has. -/
def partialWrite (cfg : Cfg) (w : World) (st : State) (input : Bytes) : World :=
  match truncatedWrite input with
  | none => w
  | some (n, part) =>
    if n > maxAnnounce || !cfg.mayWrite Gen.handler_guardFirst_HandleWriteFile || part.isEmpty then w else
    match st.wo with
    | none => w
    | some wo =>
      match w.inode? wo.ino with
      | some f => w.setInode wo.ino ⟨Content.ofBytes (f.content.all ++ part), recent⟩
      | none => w

/-- the loop of serveConn over the bytes a client sends; `fuel` ≥ number of requests.
    Returns the final world and state, everything sent, and the number of input bytes consumed. -/
def serve (cfg : Cfg) : Nat → World → State → Bytes → Bytes → Nat → World × State × Bytes × Nat
  | 0, w, st, _, acc, used => (w, st, acc, used)
  | fuel + 1, w, st, input, acc, used =>
    match decode input with
    | .incomplete => (partialWrite cfg w st input, st, acc, used + input.length)   -- the blocked read swallowed what there was
    | .unknown _ => (w, st, acc, used + cmdSize)
    | .req r rest =>
      let (w', st', out) := step cfg w st r
      let used' := used + (input.length - rest.length)
      if out.close then (w', st', acc ++ out.bytes, used')
      else serve cfg fuel w' st' rest (acc ++ out.bytes) used'

/-! ### the handle ledger (State.{CwdHandle,ROFile,WOFile}, State.Close) -/

/-- number of handles the connection state owns -/
def handles (st : State) : Nat := st.cwd.isSome.toNat + st.ro.isSome.toNat + st.wo.isSome.toNat

/-- State.Close: every slot is closed and cleared (deferred on every exit path of serveConn) -/
def State.close (_ : State) : State := {}

/-- (opened, closed): the handles a handler opens into / closes out of the three slots for one
    request, following the replace-then-close logic of HandleOpenDir / HandleReadDirEntry /
    HandleOpenFile / HandleCloseFile / HandleCreateFile. Handles that live only inside one handler
    call (key files, PARAM.SFO, directories walked for a size) are closed by `defer` there. -/
def ledgerEv (cfg : Cfg) (w : World) (st : State) (r : Req) : Nat × Nat :=
  let had (b : Bool) : Nat := b.toNat
  match r with
  | .openDir raw =>
    match openRO cfg w (PathStr.cleanRequest raw) with
    | none => (0, had st.cwd.isSome)
    | some (.dir _) => (1, had st.cwd.isSome)
    | some _ => (1, 1 + had st.cwd.isSome)      -- opened, found not to be a directory, closed again
  | .readDirEntry | .readDirEntryV2 =>
    match st.cwd with
    | none => (0, 0)
    | some h =>
      match nextEntry w h.named (h.remaining.getD (dirNames w h.real)) with
      | none => (0, 1)                           -- end of directory: the handle is closed
      | some _ => (0, 0)
  | .openFile raw =>
    let p := PathStr.cleanRequest raw
    if p == [closeFileName] then (0, had st.ro.isSome)
    else match openRO cfg w p with
      | none => (0, had st.ro.isSome)
      | some _ => (1, had st.ro.isSome)
  | .createFile raw =>
    let p := PathStr.cleanRequest raw
    if !cfg.mayWrite Gen.handler_guardFirst_HandleCreateFile then (0, 0) else
    let closedOld := had st.wo.isSome
    if (step cfg w st (.createFile raw)).2.1.wo.isSome then (1, closedOld) else (0, closedOld)
  | _ => (0, 0)

/-! ### what one request can change

  The frame theorems of C02, C05, C12 and C13 are read off `step_frame`. -/

/-- The footprint of a request, as a relation between `(w, st)` and the result `s` of the step: the
    directory requests rewrite only the directory slot, OPEN_FILE only the read slot and its sector
    size, CREATE_FILE the world and the write slot, the other mutating requests only the world, the
    rest nothing. -/
def Frame (w : World) (st : State) (r : Req) (s : World × State × Out) : Prop :=
  match r with
  | .openDir _ | .readDirEntry | .readDirEntryV2 | .readDir => s.1 = w ∧ s.2.1 = { st with cwd := s.2.1.cwd }
  | .openFile _ => s.1 = w ∧ s.2.1 = { st with ro := s.2.1.ro, cdSectorSize := s.2.1.cdSectorSize }
  | .createFile _ => s.2.1 = { st with wo := s.2.1.wo }
  | .writeFile _ _ | .deleteFile _ | .mkdir _ | .rmdir _ => s.2.1 = st
  | .statFile _ | .readFile _ _ | .readFileCritical _ _ | .readCD _ _ | .getDirSize _ => s.1 = w ∧ s.2.1 = st

theorem step_frame (cfg : Cfg) (w : World) (st : State) (r : Req) : Frame w st r (step cfg w st r) := by
  -- the equation lemmas of `step` are generated here once, for every file that unfolds it
  cases r <;> simp only [step]
  -- `iteInduction`, not `split`, on the `if`s: `split` re-simplifies the whole else-branch at every guard
  all_goals (repeat' first | (apply iteInduction <;> intro _) | split) <;> first | exact rfl | exact ⟨rfl, rfl⟩

end Ps3.Conn
