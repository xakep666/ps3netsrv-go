/-
  Spec for C09/C07: a generated image is ONE fixed byte string —
  metadata ++ every non-empty file's content padded with zeros to a sector ++ the zero pad area.
-/
import Ps3.Model.Viso
namespace Ps3.Spec.Viso
open Ps3.Viso

def padded (f : FileExt) : Nat := sectors f.size * sectorSize

/-- the bytes a file occupies in the image: its content, then zeros up to the sector boundary -/
def fileBytes (cf : Nat → Content) (f : FileExt) : Bytes := (cf f.ino).read 0 f.size ++ zeros (padded f - f.size)

def flatFiles (cf : Nat → Content) (fs : List FileExt) : Bytes := (fs.map (fileBytes cf)).flatten

/-- the canonical image -/
def flat (img : Image) (cf : Nat → Content) : Bytes :=
  img.fsBuf ++ (flatFiles cf img.files ++ zeros img.padAreaSize)

/-- files laid out back to back starting at byte `start` -/
def Consec : Nat → List FileExt → Prop
  | _, [] => True
  | start, f :: rest => f.lba * sectorSize = start ∧ Consec (start + padded f) rest

theorem consec_append (s t : List FileExt) (start : Nat) :
    Consec start (s ++ t) ↔ Consec start s ∧ Consec (start + (s.map padded).sum) t := by
  induction s generalizing start with
  | nil => simp [Consec]
  | cons g s ih => simp [Consec, ih, Nat.add_assoc, and_assoc]

/-- what `build` establishes about the layout -/
structure WF (img : Image) (cf : Nat → Content) : Prop where
  consec : Consec img.fsBuf.length img.files
  sizes : ∀ f ∈ img.files, (cf f.ino).size = f.size
  padStart : img.padAreaStart = img.fsBuf.length + (img.files.map padded).sum
  total : img.totalSize = img.padAreaStart + img.padAreaSize
  aligned : img.fsBuf.length % sectorSize = 0

/-- executable check of `Consec` -/
def consecB : Nat → List FileExt → Bool
  | _, [] => true
  | start, f :: rest => f.lba * sectorSize == start && consecB (start + padded f) rest

theorem consecB_sound : ∀ (fs : List FileExt) (start : Nat), consecB start fs = true → Consec start fs := by
  intro fs
  induction fs with
  | nil => intro _ _; trivial
  | cons f rest ih =>
    intro start h
    simp only [consecB, Bool.and_eq_true, beq_iff_eq] at h
    exact ⟨h.1, ih _ h.2⟩

/-- executable check of the well-formedness the read theorem needs -/
def wfB (img : Image) (cf : Nat → Content) : Bool :=
  consecB img.fsBuf.length img.files &&
  img.files.all (fun f => (cf f.ino).size == f.size) &&
  img.padAreaStart == img.fsBuf.length + (img.files.map padded).sum &&
  img.totalSize == img.padAreaStart + img.padAreaSize &&
  img.fsBuf.length % sectorSize == 0

end Ps3.Spec.Viso
