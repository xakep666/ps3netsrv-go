/-
  Spec: how an ISO 9660 reader walks a directory extent (ECMA-119 6.8.1, 9.1) — independent of how the
  generator writes it. Used by the round-trip theorems decode ∘ encode = id (Props/C08c.lean, over Proof/IsoDir.lean).
-/
import Ps3.Model.Viso
namespace Ps3.Spec.IsoDir
open Ps3 Ps3.Viso

/-- what a reader takes from one directory record: length byte, both-endian location and data length
    (the little-endian halves are read), 7-byte time, flags, identifier -/
def parseRec (b : Bytes) : Option DirRec :=
  match b with
  | [] => none
  | l :: _ =>
    let identLen := (b[32]?.map (·.toNat)).getD 0
    if l.toNat < 34 ∨ b.length < l.toNat ∨ l.toNat < 33 + identLen then none
    else some ⟨fromLE (slice b 2 4), fromLE (slice b 10 4), slice b 18 7, (b[25]?.map (·.toNat)).getD 0, slice b 33 identLen⟩

/-- walk a directory extent: a zero length byte means "nothing more in this sector" -/
def decodeRecsAux : Nat → Nat → Bytes → List DirRec
  | 0, _, _ => []
  | fuel + 1, pos, rest =>
    match rest with
    | [] => []
    | l :: _ =>
      if l.toNat = 0 then
        let skip := sectorSize - pos % sectorSize
        decodeRecsAux fuel (pos + skip) (rest.drop skip)
      else
        match parseRec rest with
        | none => []
        | some r => r :: decodeRecsAux fuel (pos + l.toNat) (rest.drop l.toNat)

def decodeRecs (b : Bytes) : List DirRec := decodeRecsAux (b.length + 2) 0 b

/-- the fields a record can carry without loss -/
structure RecOk (r : DirRec) : Prop where
  time : r.time.length = 7
  ident : r.ident.length ≤ 221
  loc : r.extLoc < 2 ^ 32
  len : r.extLen < 2 ^ 32
  flags : r.flags < 256

/-! ### path tables -/

/-- one path table record as a reader takes it (ECMA-119 9.4), `big` = type M table -/
def parsePt (b : Bytes) (big : Bool) : Option (PtEntry × Nat) :=
  match b with
  | [] => none
  | l :: _ =>
    let n := l.toNat
    let total := 8 + n + n % 2
    if n = 0 ∨ b.length < total then none
    else some (⟨if big then fromBE (slice b 2 4) else fromLE (slice b 2 4),
                if big then fromBE (slice b 6 2) else fromLE (slice b 6 2), slice b 8 n⟩, total)

/-- read a path table of `size` bytes (the size comes from the volume descriptor) -/
def decodePtAux : Nat → Bytes → Bool → List PtEntry
  | 0, _, _ => []
  | fuel + 1, b, big =>
    match parsePt b big with
    | none => []
    | some (e, n) => e :: decodePtAux fuel (b.drop n) big

def decodePt (b : Bytes) (size : Nat) (big : Bool) : List PtEntry := decodePtAux (size + 1) (b.take size) big

structure PtOk (e : PtEntry) : Prop where
  ident : 1 ≤ e.ident.length ∧ e.ident.length ≤ 255
  loc : e.loc < 2 ^ 32
  parent : e.parent < 2 ^ 16

end Ps3.Spec.IsoDir
